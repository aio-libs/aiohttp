import AioModel.C07
/-!
Helper lemmas for `AioProps/C07.lean`: facts about the set-like lists, the frame of the pool operations
(`SameCore`, `Frame`), and the inductive invariants `Inv` (bookkeeping) and `OInv` (every open connection is
tracked) of `step Fixes.all`, carried together through the call tree of `step`.
-/
namespace Aio.C07
variable {α : Type} [DecidableEq α] {s s' : St} {t : Tid} {x y : Task}

theorem mem_sinsert {a b : α} {l : List α} : b ∈ sinsert a l ↔ b = a ∨ b ∈ l := by
  unfold sinsert; split <;> simp_all
theorem mem_sremove {a b : α} {l : List α} : b ∈ sremove a l ↔ b ∈ l ∧ b ≠ a := by
  simp [sremove]
theorem sremove_cons (a b : α) (t : List α) :
    sremove a (b :: t) = if b = a then sremove a t else b :: sremove a t := by
  unfold sremove; by_cases h : b = a <;> simp [h]
theorem countP_sinsert_le (p : α → Bool) (a : α) (l : List α) :
    (sinsert a l).countP p ≤ l.countP p + (if p a then 1 else 0) := by
  unfold sinsert; split
  · omega
  · simp [List.countP_cons]
theorem countP_sremove_le (p : α → Bool) (a : α) (l : List α) : (sremove a l).countP p ≤ l.countP p :=
  List.filter_sublist.countP_le
theorem countP_sremove_lt (p : α → Bool) {a : α} {l : List α} (h : a ∈ l) (hp : p a = true) :
    (sremove a l).countP p < l.countP p := by
  induction l with
  | nil => cases h
  | cons b t ih =>
    rw [sremove_cons]
    by_cases hb : b = a
    · subst hb
      have := countP_sremove_le p b t
      simp [hp]; omega
    · have := ih (by simpa [Ne.symm hb] using h)
      simp [hb, List.countP_cons]; omega

theorem length_sinsert_le (a : α) (l : List α) : (sinsert a l).length ≤ l.length + 1 := by
  simpa [List.countP_true] using countP_sinsert_le (fun _ => true) a l
theorem length_sremove_le (a : α) (l : List α) : (sremove a l).length ≤ l.length := by
  simpa [List.countP_true] using countP_sremove_le (fun _ => true) a l
theorem length_sremove_lt {a : α} {l : List α} (h : a ∈ l) : (sremove a l).length < l.length := by
  simpa [List.countP_true] using countP_sremove_lt (fun _ => true) h rfl

def pcOf (s : St) (t : Tid) : Option Pc := (s.tasks[t]?).map (·.pc)

theorem pcOf_of_get (h : s.tasks[t]? = some x) : pcOf s t = some x.pc := by
  simp [pcOf, h]
theorem keyOf_of_get (h : s.tasks[t]? = some x) : keyOf s t = x.key := by
  simp [keyOf, h]
theorem lt_of_get (h : s.tasks[t]? = some x) : t < s.tasks.length :=
  (List.getElem?_eq_some_iff.mp h).1

theorem tasks_set (hx : s.tasks[t]? = some x)
    (ht : s'.tasks = s.tasks.set t y) (u : Tid) : s'.tasks[u]? = if u = t then some y else s.tasks[u]? := by
  rw [ht, List.getElem?_set]
  by_cases e : t = u
  · subst e; simp [lt_of_get hx]
  · simp [e, Ne.symm e]
theorem pcOf_set (hx : s.tasks[t]? = some x)
    (ht : s'.tasks = s.tasks.set t y) (u : Tid) : pcOf s' u = if u = t then some y.pc else pcOf s u := by
  unfold pcOf; rw [tasks_set hx ht]; split <;> rfl
theorem keyOf_set (hx : s.tasks[t]? = some x)
    (ht : s'.tasks = s.tasks.set t y) (hk : y.key = x.key) (u : Tid) : keyOf s' u = keyOf s u := by
  unfold keyOf; rw [tasks_set hx ht]
  by_cases e : u = t
  · rw [if_pos e, e, hx]; exact hk
  · rw [if_neg e]

/-- `s'` has the same bookkeeping as `s` (limits, `_acquired`, `_acquired_per_host`, closed flag, idle
pool, program counters and keys of all tasks); futures, flags, queues and open-flags may differ -/
structure SameCore (s s' : St) : Prop where
  limit : s'.limit = s.limit
  lph : s'.lph = s.lph
  acquired : s'.acquired = s.acquired
  perHost : s'.perHost = s.perHost
  closed : s'.closed = s.closed
  len : s'.tasks.length = s.tasks.length
  pc : ∀ u, pcOf s' u = pcOf s u
  key : ∀ u, keyOf s' u = keyOf s u
  idle : s'.idle = s.idle

theorem hasCap_iff (s : St) (k : Key) : hasCap s k = true ↔
    (s.limit = 0 ∨ s.acquired.length < s.limit) ∧ (s.lph = 0 ∨ hostCount s k < s.lph) := by
  simp only [hasCap, Bool.and_eq_true, Bool.or_eq_true, decide_eq_true_eq]

theorem hasCap_core {s s' : St} (h : SameCore s s') (k : Key) : hasCap s' k = hasCap s k := by
  unfold hasCap hostCount; rw [h.perHost, h.acquired, h.limit, h.lph]

theorem hostCount_le_of (s s' : St) (k : Key) (h : ∀ p : Key × Slot → Bool, s'.perHost.countP p ≤ s.perHost.countP p) :
    hostCount s' k ≤ hostCount s k := h _

/-- what a step that only closes connections and dequeues waiters leaves; every invariant below is preserved
along a `Frame` -/
structure Frame (s s' : St) : Prop extends SameCore s s' where
  pending : s'.pendingNew = s.pendingNew
  waitq : ∀ u ∈ s'.waitq, u ∈ s.waitq
  conns : ∀ c, connOpen s' c = true → connOpen s c = true

/-- `e` says that `s'` differs from `s` at most in the fields listed -/
theorem Frame.of_eq
    (e : s' = { s with conns := s'.conns, waitq := s'.waitq, ready := s'.ready, wkeys := s'.wkeys, perm := s'.perm,
                       now := s'.now, timer := s'.timer })
    (hw : ∀ u ∈ s'.waitq, u ∈ s.waitq) (hc : ∀ c, connOpen s' c = true → connOpen s c = true) : Frame s s' := by
  rw [e]; exact ⟨⟨rfl, rfl, rfl, rfl, rfl, rfl, fun _ => rfl, fun _ => rfl, rfl⟩, rfl, hw, hc⟩

theorem Frame.refl (s : St) : Frame s s := .of_eq rfl (fun _ h => h) fun _ h => h
theorem Frame.trans {a b c : St} (f : Frame a b) (g : Frame b c) : Frame a c where
  limit := g.limit.trans f.limit
  lph := g.lph.trans f.lph
  acquired := g.acquired.trans f.acquired
  perHost := g.perHost.trans f.perHost
  closed := g.closed.trans f.closed
  len := g.len.trans f.len
  pc u := (g.pc u).trans (f.pc u)
  key u := (g.key u).trans (f.key u)
  idle := g.idle.trans f.idle
  pending := g.pending.trans f.pending
  waitq u h := f.waitq u (g.waitq u h)
  conns c h := f.conns c (g.conns c h)

theorem frame_fields {r : List Tid} {w p : List Key} {n : Nat} {b : Bool} :
    Frame s { s with ready := r, wkeys := w, perm := p, now := n, timer := b } :=
  .of_eq rfl (fun _ h => h) fun _ h => h

theorem frame_setTask (hx : s.tasks[t]? = some x)
    (hk : y.key = x.key) (hp : y.pc = x.pc) : Frame s (setTask s t y) := by
  refine ⟨⟨rfl, rfl, rfl, rfl, rfl, by simp [setTask], fun u => ?_, keyOf_set hx rfl hk, rfl⟩,
    rfl, fun _ h => h, fun _ h => h⟩
  rw [pcOf_set hx rfl]; split
  · next e => rw [e, pcOf_of_get hx, hp]
  · rfl

theorem frame_wake (s : St) (t : Tid) : Frame s (wake s t) := by
  unfold wake; split
  · next x hx => exact (frame_setTask (y := { x with fut := .woken }) hx rfl rfl).trans frame_fields
  · exact .refl s

theorem wakeScan_spec (s : St) (k : Key) (l : List Tid) :
    (∀ u ∈ (wakeScan s k l).2, u ∈ l)
    ∧ (∀ u, (wakeScan s k l).1 = some u → u ∈ l ∧ keyOf s u = k ∧ futOf s u = .pending)
    ∧ ((wakeScan s k l).1 = none → ∀ u ∈ l, keyOf s u = k → futOf s u ≠ .pending)
    ∧ (∀ u ∈ l, keyOf s u ≠ k → u ∈ (wakeScan s k l).2) := by
  fun_induction wakeScan s k l with
  | case1 => simp
  | case2 a t hk hp =>
    exact ⟨fun u hu => List.mem_cons_of_mem _ hu, fun u hu => by cases hu; exact ⟨List.mem_cons_self, hk, hp⟩,
      nofun, fun u hu hne => (List.mem_cons.mp hu).resolve_left fun e => hne (e ▸ hk)⟩
  | case3 a t hk hp ih =>
    obtain ⟨i1, i2, i3, i4⟩ := ih
    exact ⟨fun u hu => List.mem_cons_of_mem _ (i1 u hu), fun u hu => (i2 u hu).imp (List.mem_cons_of_mem _) id,
      fun hn u hu hku => (List.mem_cons.mp hu).elim (fun e => e ▸ hp) fun e => i3 hn u e hku,
      fun u hu hne => i4 u ((List.mem_cons.mp hu).resolve_left fun e => hne (e ▸ hk)) hne⟩
  | case4 a t hk r ih =>
    obtain ⟨i1, i2, i3, i4⟩ := ih
    exact ⟨fun u hu => List.mem_cons.mpr ((List.mem_cons.mp hu).imp id (i1 u)),
      fun u hu => (i2 u hu).imp (List.mem_cons_of_mem _) id,
      fun hn u hu hku => (List.mem_cons.mp hu).elim (fun e => absurd (e ▸ hku) hk) fun e => i3 hn u e hku,
      fun u hu hne => List.mem_cons.mpr ((List.mem_cons.mp hu).imp id fun e => i4 u e hne)⟩

theorem frame_waitq (s : St) (l : List Tid) (hl : ∀ u ∈ l, u ∈ s.waitq) : Frame s { s with waitq := l } :=
  .of_eq rfl hl fun _ h => h

theorem frame_releaseWaiterKeys (ks : List Key) (s : St) : Frame s (releaseWaiterKeys s ks) := by
  fun_induction releaseWaiterKeys s ks with
  | case1 s => exact .refl s
  | case2 s k ks hc r s' t ht => exact (frame_waitq s _ (wakeScan_spec s k s.waitq).1).trans (frame_wake _ _)
  | case3 s k ks hc r s' hn ih => exact (frame_waitq s _ (wakeScan_spec s k s.waitq).1).trans ih
  | case4 s k ks hc ih => exact ih
theorem frame_releaseWaiter (s : St) : Frame s (releaseWaiter s) := frame_releaseWaiterKeys _ s

theorem frame_unpark (s : St) (t : Tid) (k : Key) : Frame s (unpark s t k) :=
  (frame_waitq s _ fun _ h => (mem_sremove.mp h).1).trans frame_fields

theorem connOpen_closeConn (s : St) (c d : Cid) :
    connOpen (closeConn s c) d = (if d = c then false else connOpen s d) := by
  unfold connOpen closeConn
  simp only [List.getElem?_modify]
  by_cases e : c = d
  · subst e; cases s.conns[c]? <;> simp
  · simp [e, Ne.symm e]

theorem connOpen_closeMany (s : St) (l : List Cid) (c : Cid) :
    connOpen (closeMany s l) c = (if c ∈ l then false else connOpen s c) := by
  unfold connOpen closeMany
  simp only [List.getElem?_mapIdx]
  cases h : s.conns[c]? with
  | none => simp
  | some x => by_cases e : c ∈ l <;> simp [e]

theorem connOpen_cleanup (s : St) (c : Cid) :
    connOpen (cleanup s) c = if c ∈ s.idle ∧ (!usable s c) = true then false else connOpen s c :=
  (connOpen_closeMany _ _ c).trans (ite_congr (propext List.mem_filter) (fun _ => rfl) fun _ => rfl)

theorem open_of_closeConn {c d : Cid} (h : connOpen (closeConn s c) d = true) :
    d ≠ c ∧ connOpen s d = true := by
  rw [connOpen_closeConn] at h; split at h
  · cases h
  · exact ⟨‹_›, h⟩
theorem open_of_closeMany {l : List Cid} {d : Cid} (h : connOpen (closeMany s l) d = true) :
    d ∉ l ∧ connOpen s d = true := by
  rw [connOpen_closeMany] at h; split at h
  · cases h
  · exact ⟨‹_›, h⟩

theorem frame_closeConn (s : St) (c : Cid) : Frame s (closeConn s c) :=
  .of_eq rfl (fun _ h => h) fun _ h => (open_of_closeConn h).2
theorem frame_closeMany (s : St) (l : List Cid) : Frame s (closeMany s l) :=
  .of_eq rfl (fun _ h => h) fun _ h => (open_of_closeMany h).2

/-- the member of `_acquired` that task `t` accounts for at program counter `p` -/
def Pc.slot (t : Tid) : Pc → Option Slot
  | .creating _ => some (.ph t)
  | .holding c => some (.conn c)
  | _ => none

theorem Pc.slot_ph {p : Pc} {t u : Tid} (h : p.slot t = some (.ph u)) : u = t := by
  cases p <;> simp [Pc.slot] at h; exact h.symm

structure Moves (s s' : St) (t : Tid) (p q : Pc) : Prop where
  limit : s'.limit = s.limit
  lph : s'.lph = s.lph
  closed : s'.closed = s.closed
  old : pcOf s t = some p
  new : pcOf s' t = some q
  other : ∀ u, u ≠ t → pcOf s' u = pcOf s u
  key : ∀ u, keyOf s' u = keyOf s u

theorem Moves.mk' (hx : s.tasks[t]? = some x) (hk : y.key = x.key)
    (ht : s'.tasks = s.tasks.set t y) (hl : s'.limit = s.limit) (hlph : s'.lph = s.lph)
    (hc : s'.closed = s.closed) : Moves s s' t x.pc y.pc :=
  ⟨hl, hlph, hc, pcOf_of_get hx, by rw [pcOf_set hx ht, if_pos rfl],
    fun u hu => by rw [pcOf_set hx ht, if_neg hu], keyOf_set hx ht hk⟩

/-- some task with key `k` accounts for the member `sl` of `_acquired` -/
def Owns (s : St) (k : Key) (sl : Slot) : Prop :=
  ∃ t p, pcOf s t = some p ∧ p.slot t = some sl ∧ keyOf s t = k

theorem Owns.core {k : Key} {sl : Slot} (o : Owns s k sl) (c : SameCore s s') : Owns s' k sl := by
  obtain ⟨t, p, h1, h2, h3⟩ := o
  exact ⟨t, p, by rw [c.pc]; exact h1, h2, by rw [c.key]; exact h3⟩

theorem Owns.moves {p q : Pc} {k : Key} {sl : Slot} (o : Owns s k sl) (m : Moves s s' t p q)
    (h : keyOf s t = k → p.slot t = some sl → q.slot t = some sl) : Owns s' k sl := by
  obtain ⟨u, pu, h1, h2, h3⟩ := o
  by_cases e : u = t
  · subst e; rw [m.old] at h1; cases h1
    exact ⟨u, q, m.new, h h3 h2, by rw [m.key]; exact h3⟩
  · exact ⟨u, pu, by rw [m.other u e]; exact h1, h2, by rw [m.key]; exact h3⟩

theorem Owns.new {p q : Pc} {sl : Slot} (m : Moves s s' t p q) (h : q.slot t = some sl) :
    Owns s' (keyOf s t) sl :=
  ⟨t, q, m.new, h, m.key t⟩

/-- bookkeeping invariant of the pool -/
structure Inv (s : St) : Prop where
  /-- a task establishing a connection has its placeholder counted (while the connector is open) -/
  present : s.closed = false → ∀ t p, pcOf s t = some p → p.slot t = some (.ph t) →
      Slot.ph t ∈ s.acquired ∧ (s.lph ≠ 0 → (keyOf s t, Slot.ph t) ∈ s.perHost)
  lim : s.limit = 0 ∨ s.acquired.length ≤ s.limit
  limh : s.lph = 0 ∨ ∀ k, hostCount s k ≤ s.lph
  owner : ∀ sl ∈ s.acquired, ∃ k, Owns s k sl
  hostOwner : ∀ x ∈ s.perHost, Owns s x.1 x.2
  closed_empty : s.closed = true → s.acquired = [] ∧ s.perHost = [] ∧ s.idle = [] ∧ s.waitq = []
  /-- without a per-host limit `_acquired_per_host` is not maintained -/
  host_off : s.lph = 0 → s.perHost = []
  waiting : ∀ t ∈ s.waitq, pcOf s t = some .waiting

theorem Inv.of_closed (hc : s.closed = true) (ha : s.acquired = []) (hh : s.perHost = [])
    (hi : s.idle = []) (hw : s.waitq = []) : Inv s where
  present h := by rw [hc] at h; cases h
  lim := by right; simp [ha]
  limh := by right; intro k; simp [hostCount, hh]
  owner sl h := by rw [ha] at h; cases h
  hostOwner x h := by rw [hh] at h; cases h
  closed_empty _ := ⟨ha, hh, hi, hw⟩
  host_off _ := hh
  waiting t h := by rw [hw] at h; cases h

theorem Inv.frame (h : Inv s) (f : Frame s s') : Inv s' where
  present hc t p hp hs := by
    rw [f.closed] at hc; rw [f.pc] at hp
    rw [f.acquired, f.perHost, f.lph, f.key]; exact h.present hc t p hp hs
  lim := by rw [f.limit, f.acquired]; exact h.lim
  limh := by
    rw [f.lph]; exact h.limh.imp_right fun h1 k => by unfold hostCount; rw [f.perHost]; exact h1 k
  owner sl hs := by rw [f.acquired] at hs; exact (h.owner sl hs).imp fun _ o => o.core f.toSameCore
  hostOwner x hx := by rw [f.perHost] at hx; exact (h.hostOwner x hx).core f.toSameCore
  closed_empty hc := by
    rw [f.closed] at hc; obtain ⟨e1, e2, e3, e4⟩ := h.closed_empty hc
    rw [f.acquired, f.perHost, f.idle]
    exact ⟨e1, e2, e3, List.eq_nil_of_subset_nil fun u hu => e4 ▸ f.waitq u hu⟩
  host_off hl := by rw [f.lph] at hl; rw [f.perHost]; exact h.host_off hl
  waiting t ht := by rw [f.pc]; exact h.waiting t (f.waitq t ht)

theorem Inv.not_queued (h : Inv s) (hx : s.tasks[t]? = some x) (hp : x.pc ≠ .waiting) : t ∉ s.waitq := fun hm => by
  have := h.waiting t hm; rw [pcOf_of_get hx] at this; exact hp (Option.some.inj this)

theorem Inv.not_queued_of_slot {sl : Slot} (h : Inv s) (hx : s.tasks[t]? = some x)
    (hp : x.pc.slot t = some sl) : t ∉ s.waitq :=
  h.not_queued hx fun e => by rw [e] at hp; cases hp

theorem Moves.waiting {p q : Pc} (m : Moves s s' t p q) (h : Inv s) (htw : t ∉ s.waitq) :
    ∀ u ∈ s.waitq, pcOf s' u = some .waiting := fun u hu => by
  rw [m.other u fun e => htw (e ▸ hu)]; exact h.waiting u hu

theorem Inv.setPc (h : Inv s) (hx : s.tasks[t]? = some x) (hk : y.key = x.key)
    (htw : t ∉ s.waitq) (hc : s.closed = true ∨ y.pc.slot t = x.pc.slot t) : Inv (setTask s t y) := by
  have m : Moves s (setTask s t y) t x.pc y.pc := .mk' hx hk rfl rfl rfl rfl
  cases hcl : s.closed
  · have hs := hc.resolve_left (by simp [hcl])
    exact {
      present := fun _ u p hu hp => by
        rw [m.key]
        by_cases e : u = t
        · subst e; rw [m.new] at hu; cases hu
          exact h.present hcl u _ m.old (hs ▸ hp)
        · rw [m.other u e] at hu; exact h.present hcl u p hu hp
      lim := h.lim
      limh := h.limh
      owner := fun sl hsl => (h.owner sl hsl).imp fun _ o => o.moves m fun _ e => hs ▸ e
      hostOwner := fun z hz => (h.hostOwner z hz).moves m fun _ e => hs ▸ e
      closed_empty := fun hc' => by cases hcl.symm.trans hc'
      host_off := h.host_off
      waiting := m.waiting h htw }
  · obtain ⟨e1, e2, e3, e4⟩ := h.closed_empty hcl
    exact .of_closed (s := setTask s t y) hcl e1 e2 e3 e4

theorem Inv.take {sl : Slot} (h : Inv s) (hx : s.tasks[t]? = some x)
    (hk : y.key = x.key) (htw : t ∉ s.waitq) (hcl : s.closed = false) (hcap : hasCap s x.key = true)
    (hp : x.pc.slot t = none) (hq : y.pc.slot t = some sl) : Inv (setTask (acquire s x.key sl) t y) := by
  have m : Moves s (setTask (acquire s x.key sl) t y) t x.pc y.pc := .mk' hx hk rfl rfl rfl rfl
  have ha : (setTask (acquire s x.key sl) t y).acquired = sinsert sl s.acquired := rfl
  have hh : (setTask (acquire s x.key sl) t y).perHost
      = if s.lph = 0 then s.perHost else sinsert (x.key, sl) s.perHost := rfl
  have hw : (setTask (acquire s x.key sl) t y).waitq = s.waitq := rfl
  generalize setTask (acquire s x.key sl) t y = s' at m ha hh hw ⊢
  rw [hasCap_iff] at hcap
  have own : Owns s' x.key sl := keyOf_of_get hx ▸ Owns.new m hq
  have keep : ∀ {k sl'}, Owns s k sl' → Owns s' k sl' := fun o => o.moves m fun _ e => by rw [hp] at e; cases e
  have hnew : s.lph ≠ 0 → (x.key, sl) ∈ s'.perHost := fun hl => by
    rw [hh, if_neg hl]; exact mem_sinsert.mpr (Or.inl rfl)
  have hsub : ∀ z ∈ s.perHost, z ∈ s'.perHost := fun z hz => by
    rw [hh]; split
    · exact hz
    · exact mem_sinsert.mpr (Or.inr hz)
  exact {
    present := fun _ u p hu hs => by
      rw [m.key, m.lph, ha]
      by_cases e : u = t
      · subst e; rw [m.new] at hu; cases hu
        cases Option.some.inj (hq.symm.trans hs)
        exact ⟨mem_sinsert.mpr (Or.inl rfl), fun hl => keyOf_of_get hx ▸ hnew hl⟩
      · rw [m.other u e] at hu
        have := h.present hcl u p hu hs
        exact ⟨mem_sinsert.mpr (Or.inr this.1), fun hl => hsub _ (this.2 hl)⟩
    lim := by
      rw [m.limit, ha]
      exact hcap.1.imp_right fun h1 => Nat.le_trans (length_sinsert_le sl s.acquired) h1
    limh := by
      rw [m.lph]
      by_cases hl : s.lph = 0
      · exact Or.inl hl
      · right; intro k
        have hk := hcap.2.resolve_left hl
        have hall := h.limh.resolve_left hl k
        have := countP_sinsert_le (fun z : Key × Slot => decide (z.1 = k)) (x.key, sl) s.perHost
        unfold hostCount at *
        rw [hh, if_neg hl]
        by_cases ek : x.key = k
        · subst ek; simp at this; exact Nat.le_trans this hk
        · simp [ek] at this; exact Nat.le_trans this hall
    owner := fun sl' hs => by
      rw [ha] at hs
      rcases mem_sinsert.mp hs with e | e
      · exact ⟨_, e ▸ own⟩
      · exact (h.owner sl' e).imp fun _ => keep
    hostOwner := fun z hz => by
      rw [hh] at hz
      have : z ∈ s.perHost ∨ z = (x.key, sl) := by
        split at hz
        · exact Or.inl hz
        · exact (mem_sinsert.mp hz).symm
      exact this.elim (fun e => keep (h.hostOwner z e)) fun e => e ▸ own
    closed_empty := fun hc' => by rw [m.closed, hcl] at hc'; cases hc'
    host_off := fun hl => by rw [m.lph] at hl; rw [hh, if_pos hl]; exact h.host_off hl
    waiting := hw ▸ m.waiting h htw }

/-- `_acquired.discard(x)` and the per-host discard -/
def dropSlot (s : St) (k : Key) (sl : Slot) : St :=
  { s with acquired := sremove sl s.acquired,
           perHost := if s.lph = 0 then s.perHost else sremove (k, sl) s.perHost }
theorem releaseAcquired_eq (s : St) (k : Key) (sl : Slot) :
    releaseAcquired s k sl = if s.closed then s else releaseWaiter (dropSlot s k sl) := rfl

theorem Inv.give {sl : Slot} (h : Inv s) (hx : s.tasks[t]? = some x)
    (hk : y.key = x.key) (hcl : s.closed = false) (hp : x.pc.slot t = some sl) (hq : y.pc.slot t = none) :
    Inv (dropSlot (setTask s t y) x.key sl) := by
  have m : Moves s (dropSlot (setTask s t y) x.key sl) t x.pc y.pc := .mk' hx hk rfl rfl rfl rfl
  have hh : (dropSlot (setTask s t y) x.key sl).perHost
      = if s.lph = 0 then s.perHost else sremove (x.key, sl) s.perHost := rfl
  have htw := h.not_queued_of_slot hx hp
  exact {
    present := fun _ u p hu hs => by
      rw [m.key]
      have e : u ≠ t := fun e => by subst e; rw [m.new] at hu; cases hu; rw [hq] at hs; cases hs
      rw [m.other u e] at hu
      have := h.present hcl u p hu hs
      have ne : Slot.ph u ≠ sl := fun e' => e (Pc.slot_ph (e' ▸ hp))
      refine ⟨mem_sremove.mpr ⟨this.1, ne⟩, fun (hl : s.lph ≠ 0) => ?_⟩
      rw [hh, if_neg hl]
      exact mem_sremove.mpr ⟨this.2 hl, fun e2 => ne (congrArg Prod.snd e2)⟩
    lim := h.lim.imp_right fun h1 => Nat.le_trans (length_sremove_le sl s.acquired) h1
    limh := h.limh.imp_right fun h1 k => Nat.le_trans (hostCount_le_of s _ k fun p => by
      rw [hh]; split
      · exact Nat.le_refl _
      · exact countP_sremove_le p _ _) (h1 k)
    owner := fun sl' hs => by
      obtain ⟨h1, h2⟩ := mem_sremove.mp hs
      exact (h.owner sl' h1).imp fun _ o => o.moves m fun _ e => absurd (Option.some.inj (e.symm.trans hp)) h2
    hostOwner := fun z hz => by
      rw [hh] at hz
      have : z ∈ s.perHost ∧ z ≠ (x.key, sl) := by
        split at hz
        · next hl => rw [h.host_off hl] at hz; cases hz
        · exact mem_sremove.mp hz
      exact (h.hostOwner z this.1).moves m fun e1 e2 =>
        absurd (Prod.ext ((keyOf_of_get hx).symm.trans e1).symm (Option.some.inj (e2.symm.trans hp))) this.2
    closed_empty := fun hc' => by cases hcl.symm.trans hc'
    host_off := fun (hl : s.lph = 0) => by rw [hh, if_pos hl]; exact h.host_off hl
    waiting := m.waiting h htw }

theorem Inv.hasCap_dropSlot {k : Key} {sl : Slot} (h : Inv s) (ha : sl ∈ s.acquired)
    (hh : s.lph ≠ 0 → (k, sl) ∈ s.perHost) : hasCap (dropSlot s k sl) k = true := by
  rw [hasCap_iff]
  refine ⟨h.lim.imp_right fun h1 => Nat.lt_of_lt_of_le (length_sremove_lt ha) h1, ?_⟩
  by_cases hl : s.lph = 0
  · exact Or.inl hl
  · right
    have := countP_sremove_lt (fun z : Key × Slot => decide (z.1 = k)) (hh hl) (by simp)
    have h2 := h.limh.resolve_left hl k
    unfold hostCount dropSlot at *
    simp only [hl, if_false]; omega

theorem Inv.setIdle (h : Inv s) (l : List Cid) (hl : s.closed = true → ∀ c ∈ l, c ∈ s.idle) :
    Inv { s with idle := l } := by
  refine { h with closed_empty := fun hc => ?_ }
  obtain ⟨e1, e2, e3, e4⟩ := h.closed_empty hc
  exact ⟨e1, e2, List.eq_nil_of_subset_nil fun c hc' => e3 ▸ hl hc c hc', e4⟩

theorem Inv.setWaitq (h : Inv s) (hc : s.closed = false) (l : List Tid) (w : List Key)
    (hl : ∀ u ∈ l, pcOf s u = some .waiting) : Inv { s with waitq := l, wkeys := w } :=
  { h with closed_empty := fun hc' => by cases hc.symm.trans hc'
           waiting := hl }

theorem Inv.fields (h : Inv s) {cs : List Conn} {l : List Cid} {r : List Tid} {w p : List Key} {n : Nat}
    {b : Bool} : Inv { s with conns := cs, pendingNew := l, ready := r, wkeys := w, perm := p, now := n, timer := b } :=
  { h with }

theorem Inv.hasCap_closed (h : Inv s) (hc : s.closed = true) (k : Key) : hasCap s k = true := by
  obtain ⟨e1, e2, _⟩ := h.closed_empty hc
  rw [hasCap_iff, hostCount, e1, e2]
  exact ⟨(Nat.eq_zero_or_pos _).imp_right id, (Nat.eq_zero_or_pos _).imp_right id⟩

/-- connection `c`, if open, is pooled, in use, or still in `connect()`'s hands inside an
on_connection_create_end callback -/
def Tracked (s : St) (c : Cid) : Prop :=
  connOpen s c = true → c ∈ s.idle ∨ Slot.conn c ∈ s.acquired ∨ c ∈ s.pendingNew
def OInv (s : St) : Prop := ∀ c, Tracked s c
/-- `OInv` for every connection but `c`, the one `connect()` or `release()` has in hand -/
def OInvEx (s : St) (c : Cid) : Prop := ∀ d, d ≠ c → Tracked s d

theorem Tracked.mono {c : Cid} (h : Tracked s c) (ho : connOpen s' c = true → connOpen s c = true)
    (hi : c ∈ s.idle → c ∈ s'.idle) (ha : Slot.conn c ∈ s.acquired → Slot.conn c ∈ s'.acquired)
    (hp : c ∈ s.pendingNew → c ∈ s'.pendingNew) : Tracked s' c :=
  fun hc => (h (ho hc)).imp hi (Or.imp ha hp)

theorem Tracked.frame {c : Cid} (h : Tracked s c) (f : Frame s s') : Tracked s' c :=
  h.mono (f.conns c) (f.idle ▸ id) (f.acquired ▸ id) (f.pending ▸ id)

theorem Tracked.releaseAcquired {c : Cid} {sl : Slot} (h : Tracked s c) (k : Key) (hne : sl ≠ .conn c) :
    Tracked (releaseAcquired s k sl) c := by
  rw [releaseAcquired_eq]; split
  · exact h
  · exact (h.mono (s' := dropSlot s k sl) id id (fun h => mem_sremove.mpr ⟨h, hne.symm⟩) id).frame (frame_releaseWaiter _)

theorem OInvEx.closeConn {c : Cid} (o : OInvEx s c) : OInv (closeConn s c) := fun d => by
  by_cases e : d = c
  · exact fun hd => absurd e (open_of_closeConn hd).1
  · exact (o d e).frame (frame_closeConn s c)

def Good (s : St) : Prop := Inv s ∧ OInv s

theorem good_frame (g : Good s) (f : Frame s s') : Good s' :=
  ⟨g.1.frame f, fun d => (g.2 d).frame f⟩

theorem popIdle_nil (s : St) (k : Key) : popIdle s k [] = (none, []) := rfl

theorem popIdle_spec (s : St) (k : Key) (l : List Cid) :
    (∀ c ∈ l, c ∈ (popIdle s k l).2 ∨ (popIdle s k l).1 = some c ∨ c ∈ popDropped s k l)
    ∧ (∀ c ∈ (popIdle s k l).2, c ∈ l) := by
  fun_induction popIdle s k l with
  | case1 => simp
  | case2 a t hk hu =>
    refine ⟨fun c hc => ?_, fun c hc => List.mem_cons_of_mem _ hc⟩
    rcases List.mem_cons.mp hc with e | e
    · exact Or.inr (Or.inl (e ▸ rfl))
    · exact Or.inl e
  | case3 a t hk hu ih =>
    rw [popDropped, if_pos hk, if_neg hu]
    refine ⟨fun c hc => ?_, fun c hc => List.mem_cons_of_mem _ (ih.2 c hc)⟩
    rcases List.mem_cons.mp hc with e | e
    · exact Or.inr (Or.inr (e ▸ List.mem_cons_self))
    · exact (ih.1 c e).imp_right (Or.imp_right (List.mem_cons_of_mem _))
  | case4 a t hk r ih =>
    rw [popDropped, if_neg hk]
    refine ⟨fun c hc => ?_, fun c hc => List.mem_cons.mpr ((List.mem_cons.mp hc).imp_right (ih.2 c))⟩
    rcases List.mem_cons.mp hc with e | e
    · exact Or.inl (e ▸ List.mem_cons_self)
    · exact (ih.1 c e).imp_left (List.mem_cons_of_mem _)

theorem tryGet_false {b : Bool} (h : (tryGet s t x b).2 = false) :
    (tryGet s t x b).1 = closeMany { s with idle := (popIdle s x.key s.idle).2 } (popDropped s x.key s.idle) := by
  unfold tryGet at *; dsimp only at *; split at h
  · rfl
  · cases h

theorem good_tryGet (g : Good s) (hx : s.tasks[t]? = some x) (hn : x.pc.slot t = none)
    (hcap : hasCap s x.key = true) (htw : t ∉ s.waitq) (b : Bool) : Good (tryGet s t x b).1 := by
  have sp := popIdle_spec s x.key s.idle
  -- the idle pool of a closed connector is empty
  have hcl : (popIdle s x.key s.idle).1 ≠ none → s.closed = false := fun hne => by
    cases hc : s.closed
    · rfl
    · rw [(g.1.closed_empty hc).2.2.1] at hne; exact absurd rfl hne
  unfold tryGet
  generalize popIdle s x.key s.idle = r at sp hcl ⊢
  generalize popDropped s x.key s.idle = dropped at sp ⊢
  have h1 : Inv (closeMany { s with idle := r.2 } dropped) := (g.1.setIdle _ fun _ => sp.2).frame (frame_closeMany _ _)
  have o1 : ∀ d, connOpen (closeMany { s with idle := r.2 } dropped) d = true →
      d ∈ r.2 ∨ r.1 = some d ∨ Slot.conn d ∈ s.acquired ∨ d ∈ s.pendingNew := by
    intro d hd
    obtain ⟨ne, hd⟩ := open_of_closeMany hd
    rcases g.2 d hd with h2 | h2
    · exact (sp.1 d h2).imp_right (Or.imp_right fun h3 => absurd h3 ne)
    · exact Or.inr (Or.inr h2)
  dsimp only; split
  · next e =>
    exact ⟨h1, fun d hd => (o1 d hd).imp_right fun h2 => h2.resolve_left fun h3 => by rw [e] at h3; cases h3⟩
  · next c e =>
    refine ⟨h1.take hx rfl htw (hcl (e ▸ nofun)) hcap hn rfl, fun d hd => ?_⟩
    show d ∈ r.2 ∨ Slot.conn d ∈ sinsert (Slot.conn c) s.acquired ∨ d ∈ s.pendingNew
    rcases o1 d hd with h2 | h2 | h2 | h2
    · exact Or.inl h2
    · rw [e] at h2; cases h2; exact Or.inr (Or.inl (mem_sinsert.mpr (Or.inl rfl)))
    · exact Or.inr (Or.inl (mem_sinsert.mpr (Or.inr h2)))
    · exact Or.inr (Or.inr h2)

theorem good_reserve (g : Good s) (hx : s.tasks[t]? = some x) (hn : x.pc.slot t = none)
    (hcap : hasCap s x.key = true) (htw : t ∉ s.waitq) : Good (reserve Fixes.all s t x) := by
  unfold reserve
  cases hcl : s.closed
  · simp only [Fixes.all, Bool.and_false, Bool.false_eq_true, if_false]
    exact ⟨g.1.take hx rfl htw hcl hcap hn rfl,
      fun d => (g.2 d).mono (s' := setTask (acquire s x.key (.ph t)) t _) id id (fun h => mem_sinsert.mpr (Or.inr h)) id⟩
  · simp only [Fixes.all, Bool.and_self, if_true]
    exact ⟨g.1.setPc hx rfl htw (Or.inl hcl), g.2⟩

theorem task_of_core (c : SameCore s s') (hx : s.tasks[t]? = some x) :
    ∃ x', s'.tasks[t]? = some x' ∧ x'.key = x.key ∧ x'.pc = x.pc := by
  have hlt : t < s'.tasks.length := by rw [c.len]; exact lt_of_get hx
  refine ⟨s'.tasks[t], by simp, ?_, ?_⟩
  · have := c.key t; simp [keyOf, hx, hlt] at this; exact this
  · have := c.pc t; simp [pcOf, hx, hlt] at this; exact this

theorem good_park {x0 : Task} (g : Good s) (hx : s.tasks[t]? = some x0) (hk : x.key = x0.key)
    (hn : x0.pc.slot t = none) (hcl : s.closed = false) (htw : t ∉ s.waitq) (front : Bool) :
    Good (park s t x front) := by
  have h1 := g.1.setPc (y := { x with pc := .waiting, fut := .pending, tr := suspendAt s 1 .qstart }) hx hk htw
    (Or.inr hn.symm)
  refine ⟨h1.setWaitq hcl _ _ fun u hu => ?_, g.2⟩
  have : u = t ∨ u ∈ s.waitq := by cases front <;> simpa [setTask, or_comm] using hu
  rcases this with e | e
  · rw [e, pcOf_set hx rfl, if_pos rfl]
  · exact h1.waiting u e

theorem enter_noCap (hcap : hasCap s x.key = false) (first : Bool) :
    enter Fixes.all s t x first = park (bif first then s else releaseWaiter s) t x (!first) := by
  cases first <;> simp [enter, Fixes.all, hcap]

theorem enter_cap (hcap : hasCap s x.key = true) (first : Bool) :
    enter Fixes.all s t x first
      = if (tryGet s t x first).2 then (tryGet s t x first).1 else reserve Fixes.all (tryGet s t x first).1 t x := by
  cases first <;> simp only [enter, Fixes.all, hcap, Bool.false_and, Bool.true_and, Bool.not_true, Bool.false_or,
    Bool.false_eq_true, if_false, if_true]
  split
  · rfl
  · next hf =>
    have : hasCap (tryGet s t x true).fst x.key = true := by
      rw [tryGet_false (Bool.eq_false_iff.mpr hf)]; exact hcap
    simp only [this, if_true]

theorem good_enter (g : Good s) (hx : s.tasks[t]? = some x) (hn : x.pc.slot t = none) (htw : t ∉ s.waitq)
    (first : Bool) : Good (enter Fixes.all s t x first) := by
  cases hcap : hasCap s x.key
  · -- a closed connector has capacity, so nobody queues on it
    have hcl : s.closed = false := by
      cases e : s.closed
      · rfl
      · rw [g.1.hasCap_closed e] at hcap; cases hcap
    rw [enter_noCap hcap]
    cases first
    · have f := frame_releaseWaiter s
      obtain ⟨x', hx', hk, hp⟩ := task_of_core f.toSameCore hx
      exact good_park (good_frame g f) hx' hk.symm (hp ▸ hn) (f.closed ▸ hcl) (fun hm => htw (f.waitq t hm)) true
    · exact good_park g hx rfl hn hcl htw false
  · rw [enter_cap hcap]; split
    · exact good_tryGet g hx hn hcap htw first
    · next hf =>
      have g1 := good_tryGet g hx hn hcap htw first
      rw [tryGet_false (Bool.eq_false_iff.mpr hf)] at g1 ⊢
      exact good_reserve g1 hx hn hcap htw

theorem Inv.release {sl : Slot} (h : Inv s) (hx : s.tasks[t]? = some x)
    (hk : y.key = x.key) (hp : x.pc.slot t = some sl) (hq : y.pc.slot t = none) :
    Inv (releaseAcquired (setTask s t y) x.key sl) := by
  rw [releaseAcquired_eq]
  by_cases hcl : s.closed = true
  · rw [if_pos (show (setTask s t y).closed = true from hcl)]
    exact h.setPc hx hk (h.not_queued_of_slot hx hp) (Or.inl hcl)
  · rw [if_neg (show ¬(setTask s t y).closed = true from hcl)]
    exact (h.give hx hk (Bool.eq_false_iff.mpr hcl) hp hq).frame (frame_releaseWaiter _)

theorem good_failWait (g : Good s) (hx : s.tasks[t]? = some x) (hn : x.pc.slot t = none) :
    Good (failWait Fixes.all s t x) := by
  have g0 := good_frame g (frame_unpark s t x.key)
  have g1 : Good (setTask (unpark s t x.key) t { x with pc := .failed (failKind x), tr := none }) :=
    ⟨g0.1.setPc hx rfl (fun hm => (mem_sremove.mp hm).2 rfl) (Or.inr hn.symm), g0.2⟩
  unfold failWait; dsimp only; split
  · exact good_frame g1 (frame_releaseWaiter _)
  · exact g1

theorem good_finishWait (g : Good s) (hx : s.tasks[t]? = some x) (hn : x.pc.slot t = none) :
    Good (finishWait Fixes.all s t x) :=
  good_enter (good_frame g (frame_unpark s t x.key)) hx hn (fun hm => (mem_sremove.mp hm).2 rfl) false

theorem good_afterFut (g : Good s) (hx : s.tasks[t]? = some x) (hp : x.pc = .waiting) :
    Good (afterFut Fixes.all s t x) := by
  have hn : x.pc.slot t = none := hp ▸ rfl
  unfold afterFut; split
  · exact good_failWait g hx hn
  · split
    · exact good_frame g (frame_setTask hx rfl rfl)
    · exact good_finishWait g hx hn

/-- the swap of placeholder for connection, as a give followed by a take -/
theorem swap_eq (s : St) (t : Tid) (x : Task) (c : Cid) :
    setTask { s with acquired := sinsert (Slot.conn c) (sremove (Slot.ph t) s.acquired),
                     perHost := if s.lph = 0 then s.perHost
                                else sinsert (x.key, Slot.conn c) (sremove (x.key, Slot.ph t) s.perHost) }
      t { x with pc := .holding c }
    = setTask (acquire (dropSlot (setTask s t { x with pc := .done }) x.key (.ph t)) x.key (.conn c))
        t { x with pc := .holding c } := by
  by_cases hl : s.lph = 0 <;> simp [setTask, acquire, dropSlot, hl]

theorem good_swapOrClosed {r : Option Bool} {c : Cid} (h : Inv s) (o : OInvEx s c)
    (hx : s.tasks[t]? = some x) (hpc : x.pc = .creating r) : Good (swapOrClosed s t x c) := by
  have hs : x.pc.slot t = some (.ph t) := hpc ▸ rfl
  have htw := h.not_queued_of_slot hx hs
  unfold swapOrClosed
  by_cases hcl : s.closed = true
  · rw [if_pos hcl]
    exact ⟨(h.frame (frame_closeConn s c)).setPc hx rfl htw (Or.inl hcl), o.closeConn⟩
  · rw [if_neg hcl]
    have hcl := Bool.eq_false_iff.mpr hcl
    refine ⟨?_, fun d => ?_⟩
    · rw [swap_eq]
      have pr := h.present hcl t _ (pcOf_of_get hx) hs
      rw [keyOf_of_get hx] at pr
      have hx1 : (dropSlot (setTask s t { x with pc := .done }) x.key (.ph t)).tasks[t]? = some { x with pc := .done } := by
        simp [dropSlot, setTask, lt_of_get hx]
      exact (h.give (y := { x with pc := .done }) hx rfl hcl hs rfl).take (x := { x with pc := .done }) hx1 rfl htw hcl
        (h.hasCap_dropSlot pr.1 pr.2) rfl rfl
    · by_cases e : d = c
      · exact fun _ => Or.inr (Or.inl (mem_sinsert.mpr (Or.inl (e ▸ rfl))))
      · exact (o d e).mono (s' := setTask _ t _) id id
          (fun h => mem_sinsert.mpr (Or.inr (mem_sremove.mpr ⟨h, nofun⟩))) id

theorem good_releasePh (g : Good s) (hx : s.tasks[t]? = some x) (hk : y.key = x.key)
    (hp : x.pc.slot t = some (.ph t)) (hq : y.pc.slot t = none) :
    Good (releaseAcquired (setTask s t y) x.key (.ph t)) :=
  ⟨g.1.release hx hk hp hq, fun d => Tracked.releaseAcquired (s := setTask s t y) (g.2 d) _ nofun⟩

theorem good_release_close {sl : Slot} {c : Cid} (h : Inv s) (o : OInvEx s c) (hx : s.tasks[t]? = some x)
    (hk : y.key = x.key) (hp : x.pc.slot t = some sl) (hq : y.pc.slot t = none) (hsl : ∀ d, sl = .conn d → d = c) :
    Good (closeConn (releaseAcquired (setTask s t y) x.key sl) c) :=
  ⟨(h.release hx hk hp hq).frame (frame_closeConn _ c),
    OInvEx.closeConn fun d hd => Tracked.releaseAcquired (s := setTask s t y) (o d hd) _ fun e => hd (hsl d e)⟩

theorem good_resumeTrace (g : Good s) (hx : s.tasks[t]? = some x) (hook : Hook) :
    Good (resumeTrace Fixes.all s t x hook) := by
  unfold resumeTrace
  dsimp only
  split
  · split
    · next c hpc =>
      split
      · exact good_release_close g.1 (fun d _ => g.2 d) hx rfl (hpc ▸ rfl) rfl fun d e => by cases e; rfl
      · exact g
    · exact g
  · split
    · next hpc =>
      split
      · exact good_failWait g hx (hpc ▸ rfl)
      · split
        · exact g
        · exact good_afterFut g hx hpc
    · exact g
  · split
    · next hpc =>
      split
      · exact good_failWait g hx (hpc ▸ rfl)
      · exact good_finishWait g hx (hpc ▸ rfl)
    · exact g
  · split
    · next r hpc =>
      split
      · exact good_releasePh g hx rfl (hpc ▸ rfl) rfl
      · exact g
    · exact g
  · next c =>
    split
    · next r hpc =>
      -- `connect()` takes the new connection in hand
      have h1 : Inv { s with pendingNew := sremove c s.pendingNew } := g.1.fields
      have o1 : OInvEx { s with pendingNew := sremove c s.pendingNew } c :=
        fun d hd => (g.2 d).mono id id id fun h => mem_sremove.mpr ⟨h, hd⟩
      split
      · exact good_release_close h1 o1 hx rfl (hpc ▸ rfl) rfl nofun
      · exact good_swapOrClosed h1 o1 hx hpc
    · exact g

theorem connOpen_append {n : Conn} {d : Cid}
    (h : connOpen { s with conns := s.conns ++ [n] } d = true) : connOpen s d = true ∨ d = s.conns.length := by
  unfold connOpen at h ⊢
  by_cases e : d < s.conns.length
  · left; simp only [] at h; rw [List.getElem?_append_left e] at h; exact h
  · right
    have e2 : s.conns.length ≤ d := Nat.le_of_not_lt e
    simp only [] at h
    rw [List.getElem?_append_right e2] at h
    cases hh : d - s.conns.length with
    | zero => exact Nat.le_antisymm (Nat.le_of_sub_eq_zero hh) e2
    | succ k => simp [hh] at h

theorem good_resume (g : Good s) (hx : s.tasks[t]? = some x) : Good (resume Fixes.all s t x) := by
  unfold resume
  split
  · next hook r htr =>
    split
    · exact g
    · exact good_resumeTrace (good_frame g (frame_setTask (y := { x with tr := none }) hx rfl rfl))
        (by simp [setTask, lt_of_get hx]) hook
  · split
    · next hpc =>
      have hn : x.pc.slot t = none := hpc ▸ rfl
      have htw := g.1.not_queued hx (by rw [hpc]; nofun)
      split
      · exact ⟨g.1.setPc hx rfl htw (Or.inr hn.symm), g.2⟩
      · exact good_enter g hx hn htw true
    · next hpc =>
      split
      · exact g
      · exact good_afterFut g hx hpc
    · next res hpc =>
      split
      · exact good_releasePh g hx rfl (hpc ▸ rfl) rfl
      · split
        · exact g
        · exact good_releasePh g hx rfl (hpc ▸ rfl) rfl
        · dsimp only
          -- the new connection `s.conns.length` is in `connect()`'s hands
          have o1 : OInvEx { s with conns := s.conns ++ [({ key := x.key } : Conn)] } s.conns.length :=
            fun d ne hd => (connOpen_append hd).elim (g.2 d) (absurd · ne)
          split
          · refine ⟨g.1.fields.frame (frame_setTask hx rfl rfl), fun d hd => ?_⟩
            show d ∈ s.idle ∨ Slot.conn d ∈ s.acquired ∨ d ∈ s.conns.length :: s.pendingNew
            by_cases e : d = s.conns.length
            · exact Or.inr (Or.inr (e ▸ List.mem_cons_self))
            · exact (o1 d e hd).imp_right (Or.imp_right (List.mem_cons_of_mem _))
          · exact good_swapOrClosed g.1.fields o1 hx hpc
    · exact g

theorem frame_cancelTask (hx : s.tasks[t]? = some x) (b : Bool) : Frame s (cancelTask s t x b) := by
  fun_cases cancelTask s t x b
  all_goals first
    | exact .refl s
    | exact (frame_setTask hx (by cases b <;> rfl) (by cases b <;> rfl)).trans frame_fields

theorem frame_foldl_closeConn (l : List Cid) (s : St) : Frame s (l.foldl closeConn s) := by
  induction l generalizing s with
  | nil => exact .refl s
  | cons a t ih => exact (frame_closeConn s a).trans (ih _)
theorem frame_closeSlots (l : List Slot) (s : St) : Frame s (closeSlots s l) := by
  fun_induction closeSlots s l with
  | case1 s => exact .refl s
  | case2 s c r ih => exact (frame_closeConn s c).trans ih
  | case3 s u r ih => exact ih
theorem frame_cancelWaiters (l : List Tid) (s : St) : Frame s (cancelWaiters s l) := by
  fun_induction cancelWaiters s l with
  | case1 s => exact .refl s
  | case2 s t ts x hx hp ih =>
    exact ((frame_setTask (y := { x with fut := .cancelled }) hx rfl rfl).trans frame_fields).trans ih
  | case3 s t ts x hx hp ih => exact ih
  | case4 s t ts hx ih => exact ih

theorem foldl_closeConn_open (l : List Cid) (s : St) (c : Cid) :
    connOpen (l.foldl closeConn s) c = true → c ∉ l := by
  induction l generalizing s with
  | nil => exact fun _ => List.not_mem_nil
  | cons a t ih =>
    exact fun h => List.not_mem_cons_of_ne_of_not_mem
      (open_of_closeConn ((frame_foldl_closeConn t _).conns c h)).1 (ih _ h)
theorem closeSlots_open (l : List Slot) (s : St) (c : Cid) (h : connOpen (closeSlots s l) c = true) :
    Slot.conn c ∉ l := by
  fun_induction closeSlots s l with
  | case1 s => exact List.not_mem_nil
  | case2 s d r ih =>
    exact List.not_mem_cons_of_ne_of_not_mem
      (fun e => (open_of_closeConn ((frame_closeSlots r _).conns c h)).1 (Slot.conn.inj e)) (ih h)
  | case3 s u r ih => exact List.not_mem_cons_of_ne_of_not_mem nofun (ih h)

theorem good_closeAll (g : Good s) : Good (closeAll Fixes.all s) := by
  unfold closeAll; split
  · exact g
  · dsimp only [Fixes.all, if_true]
    have f1 := frame_foldl_closeConn s.idle { s with closed := true }
    have c1 := foldl_closeConn_open s.idle { s with closed := true }
    generalize s.idle.foldl closeConn { s with closed := true } = s1 at f1 c1 ⊢
    have f2 := frame_closeSlots s1.acquired s1
    have c2 := closeSlots_open s1.acquired s1
    generalize closeSlots s1 s1.acquired = s2 at f2 c2 ⊢
    generalize List.flatMap _ s2.wkeys = victims
    have f3 := frame_cancelWaiters victims s2
    generalize cancelWaiters s2 victims = s3 at f3 ⊢
    have f := (f1.trans f2).trans f3
    refine ⟨.of_closed f.closed rfl rfl rfl rfl, fun d hd => ?_⟩
    have hd2 := f3.conns d hd
    have hd1 := f2.conns d hd2
    rcases g.2 d (f1.conns d hd1) with h1 | h1 | h1
    · exact absurd h1 (c1 d hd1)
    · exact absurd (f1.acquired ▸ h1) (c2 d hd2)
    · exact Or.inr (Or.inr (f.pending ▸ h1))

theorem connOpen_setUsed (s : St) (c d n : Nat) :
    connOpen { s with conns := s.conns.modify c (fun y => { y with usedAt := n }) } d = connOpen s d := by
  unfold connOpen
  simp only [List.getElem?_modify]
  by_cases e : c = d
  · subst e; cases s.conns[c]? <;> simp
  · simp [e]

theorem releaseAcquired_closed (s : St) (k : Key) (sl : Slot) : (releaseAcquired s k sl).closed = s.closed := by
  rw [releaseAcquired_eq]; split
  · rfl
  · exact (frame_releaseWaiter _).closed

theorem good_step (g : Good s) (l : Label) : Good (step Fixes.all s l) := by
  cases l with
  | spawn t =>
    simp only [step]; split
    · next x hx =>
      split
      · next hpc =>
        exact good_frame ⟨g.1.setPc (y := { x with pc := .start }) hx rfl (g.1.not_queued hx (by rw [hpc]; nofun))
          (Or.inr (hpc ▸ rfl)), g.2⟩ frame_fields
      · exact g
    · exact g
  | tick =>
    simp only [step]; split
    · exact g
    · next t rest hr =>
      have g1 : Good { s with ready := rest } := good_frame g frame_fields
      split
      · next x hx => exact good_resume g1 hx
      · exact g1
  | createDone t ok =>
    simp only [step]; split
    · next x hx =>
      split
      · next hpc =>
        have hpc' : x.pc = .creating none := by simp at hpc; exact hpc.1.1.1
        exact good_frame ⟨g.1.setPc (y := { x with pc := .creating (some ok) }) hx rfl
          (g.1.not_queued hx (by rw [hpc']; nofun)) (Or.inr (hpc' ▸ rfl)), g.2⟩ frame_fields
      · exact g
    · exact g
  | cancel t =>
    simp only [step]; split
    · next x hx => exact good_frame g (frame_cancelTask hx false)
    · exact g
  | timeout t =>
    simp only [step]; split
    · next x hx => exact good_frame g (frame_cancelTask hx true)
    · exact g
  | release t pool =>
    simp only [step]; split
    · next x hx =>
      split
      · next c hpc =>
        have hs : x.pc.slot t = some (.conn c) := hpc ▸ rfl
        split
        · exact g
        by_cases hcl : s.closed = true
        · rw [if_pos (show (setTask s t { x with pc := .done }).closed = true from hcl)]
          exact ⟨g.1.setPc hx rfl (g.1.not_queued_of_slot hx hs) (Or.inl hcl), g.2⟩
        · rw [if_neg (show ¬(setTask s t { x with pc := .done }).closed = true from hcl)]
          -- `release()` has connection `c` in hand until it is pooled or closed
          have h1 := g.1.release (y := { x with pc := .done }) hx rfl hs rfl
          have o1 : OInvEx (releaseAcquired (setTask s t { x with pc := .done }) x.key (.conn c)) c :=
            fun d hd => Tracked.releaseAcquired (s := setTask s t _) (g.2 d) _ fun e => hd (Slot.conn.inj e).symm
          have hc1 : (releaseAcquired (setTask s t { x with pc := .done }) x.key (.conn c)).closed = false :=
            (releaseAcquired_closed _ _ _).trans (Bool.eq_false_iff.mpr hcl)
          generalize releaseAcquired (setTask s t { x with pc := .done }) x.key (.conn c) = s1 at h1 o1 hc1 ⊢
          split
          · refine ⟨(h1.setIdle (s1.idle ++ [c]) fun hc => by cases hc1.symm.trans hc).fields, fun d => ?_⟩
            by_cases e : d = c
            · exact fun _ => Or.inl (List.mem_append_right _ (e ▸ List.mem_singleton_self _))
            · exact (o1 d e).mono (fun hd => connOpen_setUsed s1 c d s1.now ▸ hd) (List.mem_append_left _) id id
          · exact ⟨h1.frame (frame_closeConn _ c), o1.closeConn⟩
      all_goals exact g
    · exact g
  | lose c =>
    simp only [step]; split
    · exact good_frame g (frame_closeConn s c)
    · exact g
  | close => exact good_closeAll g
  | shuffle p => exact good_frame g frame_fields
  | traceDone t =>
    simp only [step]; split
    · next x hx =>
      split
      · split
        · exact good_frame g ((frame_setTask hx (by rfl) (by rfl)).trans frame_fields)
        · exact g
      · exact g
    · exact g
  | advance d => exact good_frame g frame_fields
  | sweep =>
    simp only [step]; split
    · refine ⟨((g.1.setIdle (s.idle.filter (usable s)) fun _ c hc => (List.mem_filter.mp hc).1).frame
        frame_fields).frame (frame_closeMany _ _), fun d hd => ?_⟩
      obtain ⟨ne, hd1⟩ := open_of_closeMany (s := { s with idle := _, timer := _ }) hd
      refine (g.2 d hd1).imp_left fun h1 => List.mem_filter.mpr ⟨h1, ?_⟩
      cases hu : usable s d
      · exact absurd (List.mem_filter.mpr ⟨h1, by simp [hu]⟩) ne
      · rfl
    · exact g

theorem good_init (limit lph : Nat) (keys : List Key) (mask ka : Nat) : Good (init limit lph keys mask ka) := by
  refine ⟨?_, fun c hc => by simp [connOpen, init] at hc⟩
  exact {
    present := fun _ t p hp hs => by
      simp only [pcOf, init, List.getElem?_map] at hp
      cases hk : keys[t]? <;> simp [hk] at hp
      rw [← hp] at hs; cases hs
    lim := Or.inr (Nat.zero_le _)
    limh := Or.inr fun _ => Nat.zero_le _
    owner := fun _ hs => nomatch hs
    hostOwner := fun _ hs => nomatch hs
    closed_empty := fun hc => nomatch hc
    host_off := fun _ => rfl
    waiting := fun _ ht => nomatch ht }

theorem good_run (g : Good s) (ls : List Label) : Good (run Fixes.all s ls) := by
  induction ls generalizing s with
  | nil => exact g
  | cons l ls ih => exact ih (good_step g l)

theorem order_mem {perm ks : List Key} {k : Key} (h : k ∈ ks) : k ∈ order perm ks := by
  unfold order
  by_cases hp : k ∈ perm
  · exact List.mem_append_left _ (by simp [h, hp])
  · exact List.mem_append_right _ (by simp [h, hp])

/-- the trace callback task `u` is suspended in, if any -/
def trOf (s : St) (u : Tid) : Option (Hook × Bool) := match s.tasks[u]? with | some x => x.tr | none => none

theorem wake_pending {u : Tid} (h : futOf s u = .pending) :
    (wake s u).ready = (if (trOf s u).isNone then s.ready ++ [u] else s.ready) ∧ futOf (wake s u) u = .woken := by
  unfold futOf at h
  unfold wake trOf
  split
  · next x hx => exact ⟨by simp only [hx], by simp [futOf, setTask, lt_of_get hx]⟩
  · next hx => simp [hx] at h

theorem releaseWaiterKeys_wakes (ks : List Key) (s : St) (t : Tid) (hk : keyOf s t ∈ ks)
    (hcap : hasCap s (keyOf s t) = true) (hw : t ∈ s.waitq) (hf : futOf s t = .pending) :
    ∃ u, u ∈ s.waitq ∧ futOf s u = .pending ∧ hasCap s (keyOf s u) = true
      ∧ (releaseWaiterKeys s ks).ready = (if (trOf s u).isNone then s.ready ++ [u] else s.ready)
      ∧ futOf (releaseWaiterKeys s ks) u = .woken := by
  fun_induction releaseWaiterKeys s ks with
  | case1 s => cases hk
  | case2 s k ks hc r s' u hu =>
    obtain ⟨h1, h2, h3⟩ := (wakeScan_spec s k s.waitq).2.1 u hu
    exact ⟨u, h1, h3, h2 ▸ hc, wake_pending (s := s') h3⟩
  | case3 s k ks hc r s' hn ih =>
    obtain ⟨sub, _, nopending, others⟩ := wakeScan_spec s k s.waitq
    -- no pending waiter of key `k`: `t` has another key and is still queued
    have hne : keyOf s t ≠ k := fun e => nopending hn t hw e hf
    obtain ⟨u, g1, g⟩ := ih ((List.mem_cons.mp hk).resolve_left hne) hcap (others t hw hne) hf
    exact ⟨u, sub u g1, g⟩
  | case4 s k ks hc ih => exact ih ((List.mem_cons.mp hk).resolve_left fun e => hc (e ▸ hcap)) hcap hw hf

end Aio.C07
