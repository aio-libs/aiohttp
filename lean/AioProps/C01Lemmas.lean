import AioProps.HttpLemmas
import AioProps.HttpSpec
/-! Lemmas for C01: what the header parser accepts is a strict reading. -/
namespace Aio.Http
open Aio

theorem isToken_iff (k : Bytes) : isToken k = true ↔ k ≠ [] ∧ ∀ b ∈ k, isTchar b = true := by
  cases k <;> simp [isToken]

theorem hasName_iff (hs : List (Bytes × Bytes)) (n : Bytes) :
    hasName hs n = true ↔ hs.filter (fun kv => lower kv.1 == n) ≠ [] := by
  simp [hasName, List.filter_eq_nil_iff]

theorem NoSingletonDup.reverse {hs : List (Bytes × Bytes)} (h : NoSingletonDup hs) : NoSingletonDup hs.reverse :=
  fun n hn => by rw [List.filter_reverse, List.length_reverse]; exact h n hn

theorem NoSingletonDup.cons {acc : List (Bytes × Bytes)} {k v : Bytes} (ha : NoSingletonDup acc)
    (h : ¬(hasName acc (lower k) = true ∧ isSingleton (lower k) = true)) : NoSingletonDup ((k, v) :: acc) := by
  intro n hn
  rw [List.filter_cons]
  by_cases hm : (lower k == n) = true
  · cases eq_of_beq hm
    have : acc.filter (fun kv => lower kv.1 == lower k) = [] :=
      Decidable.not_not.mp fun hne => h ⟨(hasName_iff _ _).mpr hne, hn⟩
    rw [if_pos hm, this]
    exact Nat.le_refl 1
  · rw [if_neg hm]
    exact ha n hn

theorem parseHeaderLines_cons_ok {mf fuel : Nat} {line : Bytes} {rest : List Bytes} {acc hs : List (Bytes × Bytes)}
    (hl : line ≠ []) (h : parseHeaderLines false mf (fuel + 1) (line :: rest) acc = .ok hs) :
    ∃ k v, StrictField line k v ∧ ¬ (hasName acc (lower k) = true ∧ isSingleton (lower k) = true) ∧
      parseHeaderLines false mf fuel rest ((k, v) :: acc) = .ok hs := by
  rw [parseHeaderLines] at h
  rcases ite_cases h with ⟨he, _⟩ | ⟨_, h⟩
  · exact absurd (List.isEmpty_iff.mp he) hl
  cases hc : cut1 58 line with
  | none => rw [hc] at h; cases h
  | some r =>
    obtain ⟨k, raw⟩ := r
    rw [hc] at h
    simp only [] at h
    obtain ⟨_, h⟩ := ite_cases_ne h nofun
    obtain ⟨_, h⟩ := ite_cases_ne h nofun
    obtain ⟨htok, h⟩ := ite_cases_ne h nofun
    simp only [Bool.false_eq_true, if_false, List.isEmpty_nil, if_true, Bool.not_false, Bool.true_and] at h
    obtain ⟨hbad, h⟩ := ite_cases_ne h nofun
    obtain ⟨hdup, h⟩ := ite_cases_ne h nofun
    obtain ⟨hcut, _⟩ := cut1_spec 58 line k raw hc
    obtain ⟨l0, el0, hl0, _⟩ := lstrip_spec isOWS raw
    obtain ⟨l1, r1, es, hl1, hr1, hh, ht⟩ := strip_spec isOWS (lstrip isOWS raw)
    refine ⟨k, _, ⟨by simpa using htok, ⟨l0 ++ l1, r1, ?_, by simp [hl0, hl1], hr1⟩, by simpa using hbad, hh, ht⟩,
      by simpa using hdup, h⟩
    generalize strip isOWS (lstrip isOWS raw) = v at es
    generalize lstrip isOWS raw = lv at el0 es
    rw [hcut, el0, es]
    simp only [List.append_assoc, List.cons_append, List.nil_append]

theorem parseHeaderLines_sound (mf : Nat) :
    ∀ (fuel : Nat) (lines : List Bytes) (acc hs : List (Bytes × Bytes)),
      lines.length < fuel → parseHeaderLines false mf fuel lines acc = .ok hs →
      ∃ hs', hs = acc.reverse ++ hs' ∧ FieldsOf lines hs' ∧ (NoSingletonDup acc → NoSingletonDup hs) := by
  intro fuel
  induction fuel with
  | zero => intro lines acc hs h; omega
  | succ n ih =>
    intro lines acc hs hlen h
    have hend : parseHeaderLines false mf (n + 1) lines acc = .ok acc.reverse → FieldsOf lines [] →
        ∃ hs', hs = acc.reverse ++ hs' ∧ FieldsOf lines hs' ∧ (NoSingletonDup acc → NoSingletonDup hs) :=
      fun e hf => by
        cases h.symm.trans e
        exact ⟨[], (List.append_nil _).symm, hf, NoSingletonDup.reverse⟩
    cases lines with
    | nil => exact hend (by rw [parseHeaderLines]) rfl
    | cons line rest =>
      by_cases hl : line = []
      · subst hl
        exact hend (by rw [parseHeaderLines]; rfl) (by simp [FieldsOf])
      · obtain ⟨k, v, hf, hdup, h⟩ := parseHeaderLines_cons_ok hl h
        obtain ⟨hs', e, hfs, hnd⟩ := ih rest _ hs (Nat.lt_of_succ_lt_succ hlen) h
        refine ⟨(k, v) :: hs', by simp [e], ?_, fun ha => hnd (ha.cons hdup)⟩
        simp only [FieldsOf, hl, if_false]
        exact ⟨k, v, hs', rfl, hf, hfs⟩

theorem parseHeaders_sound {mf : Nat} {lines : List Bytes} {hs : List (Bytes × Bytes)}
    (h : parseHeaders false mf lines = .ok hs) : FieldsOf lines hs ∧ NoSingletonDup hs := by
  obtain ⟨hs', e, hf, hnd⟩ := parseHeaderLines_sound mf _ lines [] hs (Nat.lt_succ_self _) h
  cases e
  exact ⟨hf, hnd fun _ _ => Nat.zero_le 1⟩

theorem splitRequestLine_spec {line m p v : Bytes} (h : splitRequestLine line = some (m, p, v)) :
    line = m ++ [32] ++ p ++ [32] ++ v ∧ 32 ∉ m ∧ 32 ∉ p := by
  revert h
  fun_cases splitRequestLine line
  case case3 m' r h1 p' v' h2 =>
    intro h
    cases h
    obtain ⟨c1, n1⟩ := cut1_spec 32 line m r h1
    obtain ⟨c2, n2⟩ := cut1_spec 32 r p v h2
    exact ⟨by rw [c1, c2]; simp, n1, n2⟩
  all_goals exact nofun

theorem parseRequest_ok {cfg : Cfg} (hstrict : cfg.lax = false) {urlOk : Bool → Bytes → Bool}
    {line : Bytes} {rest : List Bytes} {m : Msg} (h : parseRequest cfg urlOk (line :: rest) = .ok m) :
    StrictRequestLine line m.method m.path m.vmajor m.vminor ∧
      parseHeaders false cfg.maxField rest = .ok m.headers ∧
      (m.vmajor = 1 ∧ m.vminor = 1 → hasName m.headers bHost = true) := by
  generalize hl : line :: rest = lines at h
  revert h
  fun_cases parseRequest cfg urlOk lines
  -- the last branch of `parseRequest` is the only one that returns `.ok`
  case case10 l ls mt p v hsp htok _ vmaj vmin hv htf _ _ _ hdrs hp info _ hhost _ =>
    intro h
    cases h
    cases hl
    refine ⟨⟨mt, v, (splitRequestLine_spec hsp).1, by simpa using htok, rfl, by simpa using htf, hv⟩, hstrict ▸ hp,
      fun ⟨h1, h2⟩ => ?_⟩
    simp only at h1 h2
    simpa [h1, h2] using hhost
  all_goals exact nofun

end Aio.Http
