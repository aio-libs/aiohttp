import AioProps.C20Lemmas
/-!
# C20 — property theorems, part 1: cleanup runs exactly for what started

Model: `AioModel/C20.lean` (= `web_app.CleanupContext`, `Application` signals with
sub-applications, `web_runner.BaseRunner/AppRunner`, `web._run_app`).  `lifeLog tbl entry` is
the event log the instrumented user callbacks write during one whole life of the
application table `tbl` through `entry`; `enteredOf` / `exitsOf` read off it the contexts
whose start-up code completed / whose cleanup code ran, in order.

The property as stated — *cleanup code runs exactly once iff start-up completed, in reverse
order of start-up, for any failing set, through AppRunner or run_app* — is

    exitsOf log = (enteredOf log).reverse

It is proved in full for one application through `AppRunner` (`cleanup_iff_started_runner_single`),
its "only if / at most once" half is proved for every table, entry and failing set
(`cleanup_only_started_at_most_once`); the "if" half is false on the unchanged code in the
five situations exhibited by the counterexample theorems at the end, so the general
statements carry the excluding hypotheses and are named `_partial`.  The shutdown-drain
theorems are in `AioProps/C20Drain.lean`.
-/
namespace Aio.C20

/-- **One `CleanupContext`, all n, all failing sets.**  Start-up enters the contexts in
order and stops at the first one whose start-up code raises; exactly the contexts before it
are recorded.  Cleanup then runs the cleanup code of exactly those, each once, in reverse
order — whichever of them raise (`Exception` or `CancelledError`) — and reports an error iff
one of them raised. -/
theorem context_startup_cleanup (a : Nat) (cs : List Ctx) :
    enteredOf (enterAll a 0 cs).ev = (List.range (okPrefix cs)).map (fun i => (a, i)) ∧
    exitsOf (groupCleanup a cs (enterAll a 0 cs).entered).1 = (enteredOf (enterAll a 0 cs).ev).reverse ∧
    ((enterAll a 0 cs).err = none ↔ okPrefix cs = cs.length) ∧
    ((groupCleanup a cs (enterAll a 0 cs).entered).2 = none ↔ ∀ i < okPrefix cs, exitFail cs i = .ok) := by
  have h1 := enterAll_log a cs 0
  have h2 := enterAll_entered a cs 0
  have h3 := groupCleanup_log a cs (enterAll a 0 cs).entered
  refine ⟨?_, ?_, enterAll_err a cs 0, ?_⟩
  · rw [h1.1, h2, List.range_eq_range']
  · rw [h3.1, h1.1, List.map_reverse]
  · simp only [groupCleanup, raiseCollected_none, exitAll_errs, h2, List.mem_reverse,
      List.mem_range'_1]
    constructor
    · intro h i hi; exact h i ⟨by omega, by omega⟩
    · intro h i hi; exact h i (by omega)

/-- **Only what started, at most once — every table, both entries, every failing set.**
In the log of a whole life (application tree with sub-applications, any callbacks raising
in set-up or tear-down, through `AppRunner` or `_run_app`) no context's cleanup code runs
twice, and it runs only for a context whose start-up code had completed.
(`wellFormed`: no application is registered as a sub-application twice.) -/
theorem cleanup_only_started_at_most_once (tbl : List AppDef) (entry : Entry)
    (hwf : wellFormed tbl = true) :
    (exitsOf (lifeLog tbl entry)).Nodup ∧
      ∀ p ∈ exitsOf (lifeLog tbl entry), p ∈ enteredOf (lifeLog tbl entry) := by
  obtain ⟨hsu, hcl⟩ := (wellFormed_iff tbl).mp hwf
  obtain ⟨hen, hex, hout, hnd⟩ := runner_life tbl hsu
  refine lifeLog_cases (fun l => (exitsOf l).Nodup ∧ ∀ p ∈ exitsOf l, p ∈ enteredOf l) tbl entry ?_ ?_
  · rw [hex, hen]
    refine ⟨flatMap_pairs_nodup _ _ (cleaned_nodup tbl _ hcl) fun g => reverse_nodup _ (hnd g),
      fun p hp => ?_⟩
    have hp2 := List.mem_reverse.mp ((mem_flatMap_pairs _ _ p).mp hp).2
    -- an application that `on_startup` did not reach has recorded nothing
    refine (mem_flatMap_pairs _ _ p).mpr ⟨Decidable.byContradiction fun h => ?_, hp2⟩
    rw [hout _ h] at hp2; cases hp2
  · rw [(setup_out tbl {}).1, send_exits tbl .startup (by simp)]
    exact ⟨.nil, fun _ h => nomatch h⟩

/-- **The property in full whenever only the root has contexts.**  Any table in which the
root's context callback is the only one `on_startup` and `on_cleanup` can reach, any of its
start-up or cleanup codes and any handler of these two signals raising, `on_shutdown` not
raising: the cleanup code runs exactly for the contexts whose start-up
completed, each once, in reverse order of start-up. -/
theorem cleanup_iff_started_root_only (tbl : List AppDef) (su cl : List Step)
    (hsu : rootChain tbl .startup = .grp 0 :: su) (hsu' : groupsOf su = [])
    (hcl : rootChain tbl .cleanup = .grp 0 :: cl) (hcl' : groupsOf cl = [])
    (hsd : ∀ X, (send tbl .shutdown (rootChain tbl .shutdown) X).err = none) :
    exitsOf (lifeLog tbl .runner) = (enteredOf (lifeLog tbl .runner)).reverse := by
  obtain ⟨hen, hex, -, -⟩ := runner_life tbl (by simp [hsu, hsu'])
  have hc : cleaned tbl (Runner.step tbl {} .setup).r = [0] := by
    rw [cleaned, if_neg fun h => h.2 (hsd _), hcl, reached_single _ _ _ _ _ hcl', ite_self]
  rw [hen, hex, hc, hsu, reached_single _ _ _ _ _ hsu']
  simp [List.map_reverse]

/-- **The property in full for one application through `AppRunner`.**  For an application
without sub-applications, with any number of cleanup contexts, any of their start-up or
cleanup codes raising, any `on_startup` / `on_cleanup` handlers raising (and `on_shutdown`
handlers that do not raise — see `shutdown_handler_error_skips_all_cleanup`), driven by
`runner.setup()` then `runner.cleanup()`: the cleanup code runs exactly for the contexts whose
start-up completed, each once, in reverse order of start-up. -/
theorem cleanup_iff_started_runner_single (d : AppDef)
    (hsub : ∀ s, ∀ sl ∈ slotsOf s d, ∃ id f, sl = Slot.h id f)
    (hsd : ∀ id f, Slot.h id f ∈ d.shutdown → f = .ok) :
    exitsOf (lifeLog [d] .runner) = (enteredOf (lifeLog [d] .runner)).reverse := by
  obtain ⟨su, hsu, esu⟩ := rootChain_single d .startup (hsub .startup)
  obtain ⟨sh, hsh, esh⟩ := rootChain_single d .shutdown (hsub .shutdown)
  obtain ⟨cl, hcl, ecl⟩ := rootChain_single d .cleanup (hsub .cleanup)
  refine cleanup_iff_started_root_only [d] su cl esu (groupsOf_handlers su hsu) ecl (groupsOf_handlers cl hcl)
    fun X => send_handlers_ok _ _ _ X fun st hst => ?_
  rw [esh] at hst
  obtain ⟨id, f, rfl, hf⟩ := hsh st hst
  exact ⟨id, by rw [hsd id f hf]⟩

/-- **Teardowns never overlap — every table, both entries, every failing set.**  Reading the
whole event log, the cleanup code of a context begins only when no other cleanup code is
running, and nothing else is logged until it is over (returned or raised): "reverse order
of start-up" holds for whole teardowns (begin *and* end), not only for their first
statement.  Together with the order theorems this is the strict nesting
`… begin(k+1) end(k+1) begin(k) end(k) …`. -/
theorem teardowns_never_overlap (tbl : List AppDef) (entry : Entry) :
    nestedFrom none (lifeLog tbl entry) = true := by
  refine lifeLog_cases (nestedFrom none · = true) tbl entry ?_ (step_nested tbl {} .setup)
  rw [lifeLog_runner]
  exact nested_append _ _ (step_nested tbl {} .setup) (step_nested tbl _ .cleanup)

/-- one `CleanupContext`: the teardown events are exactly `begin i, end i` for the recorded
contexts in reverse order, one after the other -/
theorem context_teardowns_sequential (a : Nat) (cs : List Ctx) (x : List Nat) :
    (groupCleanup a cs x).1 = x.reverse.flatMap (fun i => [Ev.exit a i, Ev.exitEnd a i]) := by
  simp only [groupCleanup]
  induction x.reverse with
  | nil => rfl
  | cons i l ih => simp [exitAll, ih]

/-- **A start-up cut short by the cancellation of `setup()` is not recorded and never
completes.**  If the task awaiting `runner.setup()` is cancelled while context `k` is
starting (all earlier ones started), exactly the contexts before `k` are recorded for
cleanup, `k`'s start-up code does not complete (no `entered` event — nothing is shielded),
and `CancelledError` propagates. -/
theorem cancelled_startup_is_not_recorded (a i : Nat) (pre post : List Ctx) (x : Fail)
    (hpre : ∀ c ∈ pre, c.enter = .ok) :
    (enterAll a i (pre ++ ⟨.xcancel, x⟩ :: post)).entered = List.range' i pre.length ∧
    (enterAll a i (pre ++ ⟨.xcancel, x⟩ :: post)).err = some .cancelled ∧
    enteredOf (enterAll a i (pre ++ ⟨.xcancel, x⟩ :: post)).ev = (List.range' i pre.length).map (fun j => (a, j)) := by
  induction pre generalizing i with
  | nil => simp [enterAll, failErr]
  | cons c pre ih =>
    have hc : c.enter = .ok := hpre c (by simp)
    have := ih (i + 1) (fun c' hc' => hpre c' (by simp [hc']))
    simp [enterAll, hc, this, List.range'_succ]

/-- Whenever start-up succeeds, `_run_app` and `AppRunner` produce the same log (any table). -/
theorem run_app_eq_runner_when_startup_succeeds (tbl : List AppDef)
    (h : (Runner.step tbl {} .setup).err = none) : lifeLog tbl .runApp = lifeLog tbl .runner :=
  lifeLog_eq_runner tbl .runApp h

/- Full statement (false on the unchanged code, see `f16_run_app_setup_outside_try`):
   theorem cleanup_iff_started_run_app_single (d) (hsub) (hsd) :
       exitsOf (lifeLog [d] .runApp) = (enteredOf (lifeLog [d] .runApp)).reverse
   Missing: the case in which `runner.setup()` raises. -/
/-- **`run_app`, one application — partial.**  Same conclusion as
`cleanup_iff_started_runner_single` through `web._run_app`, under the extra hypothesis that
start-up succeeds (`runner.setup()` does not raise). -/
theorem cleanup_iff_started_run_app_single_partial (d : AppDef)
    (hsub : ∀ s, ∀ sl ∈ slotsOf s d, ∃ id f, sl = Slot.h id f)
    (hsd : ∀ id f, Slot.h id f ∈ d.shutdown → f = .ok)
    (hstart : (Runner.step [d] {} .setup).err = none) :
    exitsOf (lifeLog [d] .runApp) = (enteredOf (lifeLog [d] .runApp)).reverse := by
  rw [run_app_eq_runner_when_startup_succeeds [d] hstart]
  exact cleanup_iff_started_runner_single d hsub hsd

/- Full statement (false on the unchanged code — `subapp_contexts_skipped_after_failed_startup`,
   `cleanup_error_skips_subapp_contexts`, `shutdown_handler_error_skips_all_cleanup`,
   `parent_exits_before_subapp`, `f16_run_app_setup_outside_try`):
   theorem cleanup_iff_started_tree (tbl) (entry) (hwf : wellFormed tbl = true) :
       exitsOf (lifeLog tbl entry) = (enteredOf (lifeLog tbl entry)).reverse
   Missing: lives in which start-up, an `on_shutdown` handler or a cleanup step raises, and
   the order *between* different applications. -/
/-- **Application trees — partial.**  For any tree of applications (sub-applications nested
to any depth, any number of contexts and handlers), through either entry: if start-up, the
`on_shutdown` signal and the `on_cleanup` signal all complete without raising, then every
context whose start-up completed has its cleanup code run (exactly once, by
`cleanup_only_started_at_most_once`), and within each application the cleanup order is the
reverse of the start-up order.  (`hsame`: every application that receives `on_startup` also
receives `on_cleanup` — what `add_subapp` does.) -/
theorem cleanup_iff_started_tree_partial (tbl : List AppDef) (entry : Entry)
    (hwf : wellFormed tbl = true)
    (hsame : ∀ a ∈ groupsOf (rootChain tbl .startup), a ∈ groupsOf (rootChain tbl .cleanup))
    (hstart : (Runner.step tbl {} .setup).err = none)
    (hclean : (Runner.step tbl (Runner.step tbl {} .setup).r .cleanup).err = none) :
    (∀ p ∈ enteredOf (lifeLog tbl entry), p ∈ exitsOf (lifeLog tbl entry)) ∧
      ∀ a, (exitsOf (lifeLog tbl entry)).filter (fun p => p.1 = a) =
        ((enteredOf (lifeLog tbl entry)).filter (fun p => p.1 = a)).reverse := by
  have hentry := lifeLog_eq_runner tbl entry hstart
  obtain ⟨hsu, hcl⟩ := (wellFormed_iff tbl).mp hwf
  obtain ⟨hen, hex, hout, -⟩ := runner_life tbl hsu
  obtain ⟨-, -, herr, hfro⟩ := setup_out tbl {}
  -- nothing raised: both signals reached all their applications
  rw [reached_of_ok _ _ _ _ (herr ▸ hstart)] at hen hout
  rw [hentry, hen, hex, (cleanup_log tbl _).2.2.1 hclean (hfro hstart)]
  constructor
  · intro p hp
    rw [mem_flatMap_pairs] at hp ⊢
    exact ⟨hsame _ hp.1, List.mem_reverse.mpr hp.2⟩
  · intro a
    rw [filter_flatMap_pairs _ _ a hcl, filter_flatMap_pairs _ _ a hsu]
    by_cases hsu' : a ∈ groupsOf (rootChain tbl .startup)
    · simp [hsu', hsame a hsu', List.map_reverse]
    · simp [hsu', hout a hsu']

/-- **No `on_cleanup` failure can hide the root application's contexts.**  For any tree,
through either entry: if start-up and the `on_shutdown` signal complete without raising,
then every context of the *root* application whose start-up completed has its cleanup code
run — whichever `on_cleanup` handlers (of the root or of any sub-application) and whichever
cleanup codes raise.  (The root's context callback is the first receiver of `on_cleanup`;
the same holds for no other application, see `cleanup_error_skips_subapp_contexts`.) -/
theorem root_contexts_always_cleaned (d : AppDef) (t : List AppDef) (entry : Entry)
    (hwf : wellFormed (d :: t) = true)
    (hstart : (Runner.step (d :: t) {} .setup).err = none)
    (hsd : (send (d :: t) .shutdown (rootChain (d :: t) .shutdown)
      (Runner.step (d :: t) {} .setup).r.X).err = none) :
    ∀ i, (0, i) ∈ enteredOf (lifeLog (d :: t) entry) → (0, i) ∈ exitsOf (lifeLog (d :: t) entry) := by
  have hentry := lifeLog_eq_runner (d :: t) entry hstart
  obtain ⟨hen, hex, -, -⟩ := runner_life (d :: t) ((wellFormed_iff _).mp hwf).1
  obtain ⟨rest, hrest⟩ : ∃ rest, rootChain (d :: t) .cleanup = Step.grp 0 :: rest := ⟨_, rfl⟩
  intro i hi
  rw [hentry, hen, mem_flatMap_pairs] at hi
  rw [hentry, hex, mem_flatMap_pairs]
  refine ⟨?_, List.mem_reverse.mpr hi.2⟩
  rw [cleaned, if_neg fun h => h.2 hsd, hrest]
  split <;> exact List.mem_cons_self

/-- **F16 in general.**  Through `_run_app`, whenever start-up raises — whatever the table,
wherever the failure — *no* cleanup code runs at all (`await runner.setup()` precedes the
`try … finally: await runner.cleanup()`). -/
theorem run_app_failed_startup_never_cleans (tbl : List AppDef)
    (h : (Runner.step tbl {} .setup).err ≠ none) : exitsOf (lifeLog tbl .runApp) = [] := by
  rw [lifeLog_runApp, if_neg h, (setup_out tbl {}).1]
  exact send_exits tbl .startup (by simp) _ _

/-! ## Counterexamples on the model of the unchanged code (kernel-checked) -/

def ctxOk : Ctx := ⟨.ok, .ok⟩
/-- three contexts, the second fails to start (F16) -/
def f16Table : List AppDef := [⟨[ctxOk, ⟨.exc, .ok⟩, ctxOk], [], [], []⟩]
/-- root with one context and one sub-application with one context -/
def rootSub (rootCtx : Ctx) (su sd cl : List Slot) : List AppDef :=
  [⟨[rootCtx], su, sd, cl⟩, ⟨[ctxOk], [], [], []⟩]

/-- **F16.**  Three contexts, the second raises in start-up: through `AppRunner` the first
is cleaned up; through `_run_app` it completed start-up and is never cleaned up.
Minimal fix: move `await runner.setup()` inside the `try`. -/
theorem f16_run_app_setup_outside_try :
    wellFormed f16Table = true ∧
    enteredOf (lifeLog f16Table .runner) = [(0, 0)] ∧ exitsOf (lifeLog f16Table .runner) = [(0, 0)] ∧
    enteredOf (lifeLog f16Table .runApp) = [(0, 0)] ∧ exitsOf (lifeLog f16Table .runApp) = [] := by
  decide +kernel

/-- **Sub-application contexts are skipped after a failed start-up (AppRunner).**  The
sub-application's context starts, then a later `on_startup` handler of the root raises: the
application is never frozen, `Application.cleanup` takes its "not frozen" branch and exits
only the root's contexts. -/
theorem subapp_contexts_skipped_after_failed_startup :
    let tbl := rootSub ctxOk [.sub 1, .h 1 .exc] [.sub 1] [.sub 1]
    wellFormed tbl = true ∧
    enteredOf (lifeLog tbl .runner) = [(0, 0), (1, 0)] ∧ exitsOf (lifeLog tbl .runner) = [(0, 0)] := by
  decide +kernel

/-- **A failing cleanup step hides the remaining applications.**  The root's context raises
in its cleanup code: `Signal.send` stops, the sub-application's `on_cleanup` (hence its
context's cleanup code) never runs. -/
theorem cleanup_error_skips_subapp_contexts :
    let tbl := rootSub ⟨.ok, .exc⟩ [.sub 1] [.sub 1] [.sub 1]
    wellFormed tbl = true ∧
    enteredOf (lifeLog tbl .runner) = [(0, 0), (1, 0)] ∧ exitsOf (lifeLog tbl .runner) = [(0, 0)] := by
  decide +kernel

/-- **An `on_shutdown` handler that raises skips all cleanup** (both entries): the
exception leaves `BaseRunner.cleanup` before `_cleanup_server()`. -/
theorem shutdown_handler_error_skips_all_cleanup :
    let tbl : List AppDef := [⟨[ctxOk], [], [.h 1 .exc], []⟩]
    wellFormed tbl = true ∧
    enteredOf (lifeLog tbl .runner) = [(0, 0)] ∧ exitsOf (lifeLog tbl .runner) = [] ∧
    enteredOf (lifeLog tbl .runApp) = [(0, 0)] ∧ exitsOf (lifeLog tbl .runApp) = [] := by
  decide +kernel

/-- **Across applications the order is not reversed** (no failure at all): the root's
context starts first and is also cleaned first — the context callback is the first receiver
of both `on_startup` and `on_cleanup`.  Within one application the order is reversed
(`cleanup_iff_started_tree_partial`). -/
theorem parent_exits_before_subapp :
    let tbl := rootSub ctxOk [.sub 1] [.sub 1] [.sub 1]
    wellFormed tbl = true ∧
    enteredOf (lifeLog tbl .runner) = [(0, 0), (1, 0)] ∧ exitsOf (lifeLog tbl .runner) = [(0, 0), (1, 0)] := by
  decide +kernel

/-! ## the hypotheses are satisfiable (non-vacuity) -/

/-- a tree with a sub-application is well formed and satisfies every hypothesis of
`cleanup_iff_started_tree_partial` -/
example :
    let tbl := rootSub ctxOk [.h 1 .ok, .sub 1] [.sub 1, .h 2 .ok] [.h 3 .ok, .sub 1]
    wellFormed tbl = true ∧
    (∀ a ∈ groupsOf (rootChain tbl .startup), a ∈ groupsOf (rootChain tbl .cleanup)) ∧
    (Runner.step tbl {} .setup).err = none ∧
    (Runner.step tbl (Runner.step tbl {} .setup).r .cleanup).err = none := by
  decide +kernel

/-- a tree whose root `on_cleanup` handler raises satisfies the hypotheses of
`root_contexts_always_cleaned` -/
example :
    let tbl := rootSub ctxOk [.sub 1] [.sub 1] [.h 1 .exc, .sub 1]
    wellFormed tbl = true ∧ (Runner.step tbl {} .setup).err = none ∧
    (send tbl .shutdown (rootChain tbl .shutdown) (Runner.step tbl {} .setup).r.X).err = none := by
  decide +kernel

/-- an application with failing contexts and handlers satisfies the hypotheses of
`cleanup_iff_started_runner_single` -/
example :
    let d : AppDef := ⟨[ctxOk, ⟨.ok, .exc⟩, ⟨.exc, .ok⟩], [.h 1 .exc], [.h 2 .ok], [.h 3 .cancel]⟩
    (∀ s, ∀ sl ∈ slotsOf s d, ∃ id f, sl = Slot.h id f) ∧ (∀ id f, Slot.h id f ∈ d.shutdown → f = .ok) := by
  refine ⟨?_, ?_⟩
  · intro s sl hsl
    cases s <;> simp [slotsOf] at hsl <;> subst hsl <;> exact ⟨_, _, rfl⟩
  · intro id f h
    simp at h
    exact h.2

/-- start-up can fail (hypothesis of `run_app_failed_startup_never_cleans`) and succeed
(hypothesis of `cleanup_iff_started_run_app_single_partial`) -/
example : (Runner.step f16Table {} .setup).err ≠ none ∧
    (Runner.step [⟨[ctxOk], [], [], []⟩] {} .setup).err = none := by
  decide +kernel

end Aio.C20
