import AioModel.C18Ws
import AioProps.Basics
/-! C18 — WebSocket close: theorems about `effWs` / `wsClose` (model in AioModel/C18Ws.lean). -/
namespace Aio.C18

/-- **ws timeouts are passed through.** Whatever way the timeouts are given, the deprecated
`receive_timeout=` argument never changes the `ws_close` bound (a `ClientWSTimeout`'s own value, the
deprecated float, or the 10 s default) and always becomes the `ws_receive` bound. -/
theorem effWs_close_indep (a : WsArg) (r : Option Nat) : (effWs a r).close = (effWs a none).close := by
  cases a <;> cases r <;> rfl

theorem effWs_recv (a : WsArg) (r : Nat) : (effWs a (some r)).recv = some r := by
  cases a <;> rfl

theorem effWs_default_close (r : Option Nat) : (effWs .default r).close = some Gen.C18.wsCloseDefaultMs := by
  cases r <;> rfl

theorem wsRest_deadline (d : Nat) (peer : Option Nat) :
    wsRest (some d) peer = .closedAbnormal d ∨ ∃ p, p ≤ d ∧ wsRest (some d) peer = .closedOk p := by
  cases peer with
  | none => exact .inl rfl
  | some p =>
    exact ite_elim (fun r => r = WsOut.closedAbnormal d ∨ ∃ q, q ≤ d ∧ r = WsOut.closedOk q) (fun _ => .inl rfl)
      fun h => .inr ⟨p, Nat.le_of_lt (Nat.not_le.1 h), rfl⟩

/-- **ws_close_bound.** With a `ws_close` bound `c`, `close()` returns (or re-raises the caller's
cancellation) no later than `c` after the CLOSE frame was sent — whether the peer answers, stays
silent for ever, or the caller is cancelled at any instant. -/
theorem ws_close_bound (w : WsT) (tc c : Nat) (peer cancel : Option Nat) (h : w.close = some c) :
    ∃ t, (wsClose w tc peer cancel).time = some t ∧ t ≤ tc + c := by
  -- a cancellation can only make the end earlier
  have early (x d : Nat) (hd : d ≤ tc + c) (r : WsOut) (hr : r.time = some d) :
      ∃ t, (if x ≤ d then WsOut.cancelled x else r).time = some t ∧ t ≤ tc + c :=
    ite_elim (fun o : WsOut => ∃ t, o.time = some t ∧ t ≤ tc + c) (fun hx => ⟨x, rfl, Nat.le_trans hx hd⟩)
      fun _ => ⟨d, hr, hd⟩
  unfold wsClose
  simp only [h, Option.map_some]
  rcases wsRest_deadline (tc + c) peer with e | ⟨p, hp, e⟩ <;> rw [e] <;> cases cancel
  · exact ⟨_, rfl, Nat.le_refl _⟩
  · exact early _ _ (Nat.le_refl _) (.closedAbnormal _) rfl
  · exact ⟨_, rfl, hp⟩
  · exact early _ _ hp (.closedOk p) rfl

/-- without a `ws_close` bound and with a silent peer `close()` never returns: the bound is what
ends it (this is what discarding `ws_close` means) -/
theorem ws_close_unbounded (w : WsT) (tc : Nat) (h : w.close = none) :
    wsClose w tc none none = .pending := by
  unfold wsClose; simp [h, wsRest]

end Aio.C18
