import AioModel.C19
/-!
# C19 — byte search, the sliding boundary window and the chunk loop over it, base64 alignment
-/
namespace Aio.C19
open Aio

/-! ## what the property statements are written in -/

/-- `q` is the position of the first occurrence of the (non-empty) delimiter `sub` in `D` -/
structure Delim (sub D : Bytes) (q : Nat) : Prop where
  ne : sub ≠ []
  occ : isPrefix sub (D.drop q) = true
  first : ∀ j, j < q → isPrefix sub (D.drop j) = false

/-- The `read_chunk` loop of a body part in stream mode, abstracted from the stream: the i-th
call obtains the next `ks[i]` bytes of the not yet consumed data as its fresh chunk (any
segmentation of the transport and any legal `size` argument produce such a sequence), runs the
window search, pushes back what follows a match, and stops at `at_eof`. -/
def absRead (sub : Bytes) : List Nat → Bytes → Bool → Bytes → Bytes → Option Bytes
  | [], _, _, _, _ => none
  | k :: ks, prev, first, rest, acc =>
    match windowStep sub prev (rest.take k) first with
    | (res, prev', some back) =>
      if prev'.isEmpty then some (acc ++ res) else absRead sub ks prev' false (back ++ rest.drop k) (acc ++ res)
    | (res, prev', none) => absRead sub ks prev' false (rest.drop k) (acc ++ res)

/-! ## byte search -/

theorem isPrefix_iff (p l : Bytes) : isPrefix p l = true ↔ ∃ r, l = p ++ r := by
  induction p generalizing l with
  | nil => simp [isPrefix]
  | cons a p ih =>
    cases l with
    | nil => simp [isPrefix]
    | cons b l =>
      simp only [isPrefix, Bool.and_eq_true, beq_iff_eq, ih, List.cons_append, List.cons.injEq]
      constructor
      · rintro ⟨rfl, r, rfl⟩; exact ⟨r, rfl, rfl⟩
      · rintro ⟨r, rfl, rfl⟩; exact ⟨rfl, r, rfl⟩

theorem isPrefix_length {p l : Bytes} (h : isPrefix p l = true) : p.length ≤ l.length := by
  obtain ⟨r, rfl⟩ := (isPrefix_iff p l).mp h
  simp

theorem isPrefix_drop_length {p l : Bytes} {j : Nat} (hp : p ≠ [])
    (h : isPrefix p (l.drop j) = true) : j + p.length ≤ l.length := by
  have hl := isPrefix_length h
  have hpos : 0 < p.length := List.length_pos_iff.mpr hp
  rw [List.length_drop] at hl
  omega

theorem isPrefix_append_of_le (p a b : Bytes) (h : p.length ≤ a.length) :
    isPrefix p (a ++ b) = isPrefix p a := by
  fun_induction isPrefix p a with
  | case1 => rfl
  | case2 => cases h
  | case3 x p y a ih => simp only [List.cons_append, isPrefix, ih (Nat.le_of_succ_le_succ h)]

theorem findSub_some {pat : Bytes} (hp : pat ≠ []) {l : Bytes} {i j : Nat}
    (h : findSub pat l i = some j) :
    ∃ d, j = i + d ∧ isPrefix pat (l.drop d) = true ∧ ∀ k, k < d → isPrefix pat (l.drop k) = false := by
  fun_induction findSub pat l i with
  | case1 i hpe => exact absurd (List.isEmpty_iff.mp hpe) hp
  | case2 => cases h
  | case3 a t i hpre =>
    cases h
    exact ⟨0, rfl, hpre, fun k hk => absurd hk (Nat.not_lt_zero k)⟩
  | case4 a t i hpre ih =>
    obtain ⟨d, hj, h2, h3⟩ := ih h
    refine ⟨d + 1, by omega, h2, fun k hk => ?_⟩
    cases k with
    | zero => exact Bool.eq_false_iff.mpr hpre
    | succ k => exact h3 k (Nat.lt_of_succ_lt_succ hk)

theorem findSub_none {pat : Bytes} (hp : pat ≠ []) {l : Bytes} {i : Nat}
    (h : findSub pat l i = none) : ∀ k, isPrefix pat (l.drop k) = false := by
  fun_induction findSub pat l i with
  | case1 i hpe => exact absurd (List.isEmpty_iff.mp hpe) hp
  | case2 =>
    intro k
    cases pat with
    | nil => exact absurd rfl hp
    | cons x p => rw [List.drop_nil]; rfl
  | case3 => cases h
  | case4 a t i hpre ih =>
    intro k
    cases k with
    | zero => exact Bool.eq_false_iff.mpr hpre
    | succ k => exact ih h k

theorem findFrom_some {sub w : Bytes} (hp : sub ≠ []) {start idx : Nat}
    (h : findFrom sub w start = some idx) :
    start ≤ idx ∧ isPrefix sub (w.drop idx) = true ∧
      ∀ j, start ≤ j → j < idx → isPrefix sub (w.drop j) = false := by
  obtain ⟨d, rfl, h2, h3⟩ := findSub_some hp h
  rw [List.drop_drop] at h2
  refine ⟨Nat.le_add_right _ _, h2, fun j hj hlt => ?_⟩
  obtain ⟨e, rfl⟩ := Nat.exists_eq_add_of_le hj
  have := h3 e (Nat.lt_of_add_lt_add_left hlt)
  rwa [List.drop_drop] at this

theorem findFrom_none {sub w : Bytes} (hp : sub ≠ []) {start : Nat}
    (h : findFrom sub w start = none) : ∀ j, start ≤ j → isPrefix sub (w.drop j) = false := by
  intro j hj
  obtain ⟨e, rfl⟩ := Nat.exists_eq_add_of_le hj
  have := findSub_none hp h e
  rwa [List.drop_drop] at this

theorem findFrom_eq {sub w : Bytes} (hp : sub ≠ []) {start j : Nat} (hs : start ≤ j)
    (hocc : isPrefix sub (w.drop j) = true)
    (hfirst : ∀ i, start ≤ i → i < j → isPrefix sub (w.drop i) = false) :
    findFrom sub w start = some j := by
  cases h : findFrom sub w start with
  | none => rw [findFrom_none hp h j hs] at hocc; cases hocc
  | some idx =>
    obtain ⟨h1, h2, h3⟩ := findFrom_some hp h
    rcases Nat.lt_trichotomy idx j with hlt | heq | hgt
    · rw [hfirst idx h1 hlt] at h2; cases h2
    · rw [heq]
    · rw [h3 j hs hgt] at hocc; cases hocc

theorem Delim.le {sub D : Bytes} {q : Nat} (h : Delim sub D q) : q + sub.length ≤ D.length :=
  isPrefix_drop_length h.ne h.occ

theorem Delim.suffix {sub a b : Bytes} {i : Nat} (h : Delim sub (a ++ b) (a.length + i)) : Delim sub b i := by
  refine ⟨h.ne, ?_, fun j hj => ?_⟩
  · have := h.occ
    rwa [List.drop_length_add_append] at this
  · have := h.first (a.length + j) (Nat.add_lt_add_left hj _)
    rwa [List.drop_length_add_append] at this

theorem occ_window (sub E w R : Bytes) (j : Nat) (h : j + sub.length ≤ w.length) :
    isPrefix sub ((E ++ w ++ R).drop (E.length + j)) = isPrefix sub (w.drop j) := by
  rw [List.append_assoc, List.drop_length_add_append, List.drop_append_of_le_length (by omega)]
  exact isPrefix_append_of_le _ _ _ (by rw [List.length_drop]; omega)

theorem Delim.not_before {sub D E w R : Bytes} {q j : Nat} (hd : Delim sub D q) (hD : D = E ++ w ++ R)
    (h : isPrefix sub (w.drop j) = true) : j + sub.length ≤ w.length ∧ q ≤ E.length + j := by
  have hin := isPrefix_drop_length hd.ne h
  refine ⟨hin, Nat.le_of_not_lt fun hlt => ?_⟩
  rw [← occ_window sub E w R j hin, ← hD, hd.first _ hlt] at h
  cases h

theorem find_in_window {sub D E prev chunk R : Bytes} {q i start : Nat}
    (hd : Delim sub D q) (hD : D = E ++ (prev ++ chunk) ++ R) (hq : q = E.length + i)
    (hs : start ≤ i) (hin : i + sub.length ≤ prev.length + chunk.length) :
    findFrom sub (prev ++ chunk) start = some i := by
  apply findFrom_eq hd.ne hs
  · rw [← occ_window sub E _ R _ (by rw [List.length_append]; exact hin), ← hD, ← hq]
    exact hd.occ
  · intro j _ hlt
    cases hpj : isPrefix sub ((prev ++ chunk).drop j) with
    | false => rfl
    | true =>
      have := (hd.not_before hD hpj).2
      omega

/-- **A boundary straddling two reads is found.** Let `q` be the first position of the
delimiter in the data `D = E ++ prev ++ chunk ++ R` (`E` = bytes already handed out, `prev` =
the chunk kept back by the previous call, `chunk` = the fresh read). As soon as the delimiter
lies completely inside `prev ++ chunk`, the search that starts only `|sub|` bytes before the
end of `prev` (or at 0 on the first call) returns exactly that position — however the bytes
are split between `prev` and `chunk`. -/
theorem window_finds_boundary_across_edges {sub D E prev chunk R : Bytes} {q : Nat} (first : Bool)
    (hd : Delim sub D q) (hD : D = E ++ (prev ++ chunk) ++ R) (hE : E.length ≤ q)
    (hinv : first = false → E.length + prev.length < q + sub.length)
    (hin : q + sub.length ≤ E.length + prev.length + chunk.length) :
    findFrom sub (prev ++ chunk) (if first then 0 else prev.length - sub.length) = some (q - E.length) := by
  apply find_in_window hd hD (Nat.add_sub_of_le hE).symm ?_ (by omega)
  cases first with
  | true => exact Nat.zero_le _
  | false => have := hinv rfl; simp only [Bool.false_eq_true, if_false]; omega

/-- **No false boundary.** While the first delimiter of the data is not yet completely inside
the window, the search finds nothing (so nothing is cut off early), from any start index. -/
theorem window_no_false_boundary {sub D E prev chunk R : Bytes} {q start : Nat}
    (hd : Delim sub D q) (hD : D = E ++ (prev ++ chunk) ++ R)
    (hout : E.length + prev.length + chunk.length < q + sub.length) :
    findFrom sub (prev ++ chunk) start = none := by
  cases h : findFrom sub (prev ++ chunk) start with
  | none => rfl
  | some idx =>
    obtain ⟨hl, hq⟩ := hd.not_before hD (findFrom_some hd.ne h).2.1
    rw [List.length_append] at hl
    omega

theorem windowStep_some {sub prev chunk : Bytes} {first : Bool} {idx : Nat}
    (h : findFrom sub (prev ++ chunk) (if first then 0 else prev.length - sub.length) = some idx) :
    windowStep sub prev chunk first =
      (if first then (prev.take idx).drop 2 else prev.take idx,
       chunk.take (idx - prev.length), some ((prev ++ chunk).drop idx)) := by
  simp only [windowStep, h, List.take_append, List.drop_left]

theorem windowStep_none {sub prev chunk : Bytes} {first : Bool}
    (h : findFrom sub (prev ++ chunk) (if first then 0 else prev.length - sub.length) = none) :
    windowStep sub prev chunk first = (if first then prev.drop 2 else prev, chunk, none) := by
  simp only [windowStep, h]

/-- From any state of the loop — `prev` kept back without the whole delimiter in it, `rest` unread, the
first delimiter of `D = prev ++ rest` at offset `i` — the loop hands out the `i` bytes before the
delimiter (minus, on the first call, the two bytes that were put in front), provided `ks` has a call
left for each of them and two more. Every call but the closing one hands out `prev`, at least one byte,
so `i` drops with each call. -/
theorem absRead_correct {sub : Bytes} :
    ∀ (ks : List Nat) (prev rest acc D : Bytes) (first : Bool) (i : Nat),
      Delim sub D i → D = prev ++ rest →
      (first = false → prev.length < i + sub.length) →
      1 ≤ prev.length → (first = true → 2 ≤ prev.length) →
      (∀ k ∈ ks, sub.length ≤ k) → i + 2 ≤ ks.length →
      absRead sub ks prev first rest acc = some (acc ++ if first then (D.take i).drop 2 else D.take i) := by
  intro ks
  induction ks with
  | nil => intro _ _ _ _ _ _ _ _ _ _ _ _ hl; rw [List.length_nil] at hl; omega
  | cons k ks ih =>
    intro prev rest acc D first i hd hD hf hp h2 hks hl
    rw [List.length_cons] at hl
    have hne : 0 < sub.length := List.length_pos_iff.mpr hd.ne
    -- the window theorems are used with nothing in front of the window (`E = []`)
    have hD' : D = [] ++ (prev ++ rest.take k) ++ rest.drop k := by
      rw [hD, List.nil_append, List.append_assoc, List.take_append_drop]
    -- a call that hands out `prev` and keeps back `p'`, a non-empty piece of the fresh chunk
    have next : ∀ (p' r' : Bytes) (i' : Nat), rest = p' ++ r' → i = prev.length + i' → 1 ≤ p'.length →
        p'.length < i' + sub.length →
        absRead sub ks p' false r' (acc ++ if first then prev.drop 2 else prev)
          = some (acc ++ if first then (D.take i).drop 2 else D.take i) := by
      intro p' r' i' hr hi h1 hlt
      subst hD hr hi
      rw [ih p' r' _ _ false i' hd.suffix rfl (fun _ => hlt) h1 (fun h => nomatch h)
        (fun k' hk' => hks k' (List.mem_cons_of_mem _ hk')) (by omega), List.take_length_add_append]
      cases first with
      | false => simp only [Bool.false_eq_true, if_false, List.append_assoc]
      | true =>
        simp only [Bool.false_eq_true, if_true, if_false, List.drop_append_of_le_length (h2 rfl),
          List.append_assoc]
    by_cases hin : i + sub.length ≤ prev.length + (rest.take k).length
    · have hfind := window_finds_boundary_across_edges first hd hD' (Nat.zero_le _)
        (fun h => by rw [List.length_nil, Nat.zero_add]; exact hf h)
        (by rw [List.length_nil, Nat.zero_add]; exact hin)
      rw [List.length_nil, Nat.sub_zero] at hfind
      rw [absRead, windowStep_some hfind]
      by_cases hidx : i ≤ prev.length
      · -- the delimiter starts inside `prev`: this call ends the part
        simp only [Nat.sub_eq_zero_of_le hidx, List.take_zero, List.isEmpty_nil, if_true, hD,
          List.take_append_of_le_length hidx]
      · -- it starts `j` bytes into the fresh chunk: `prev` is handed out, these bytes are kept back
        obtain ⟨j, rfl⟩ := Nat.exists_eq_add_of_le (Nat.le_of_not_le hidx)
        have hj1 : 1 ≤ j := Nat.pos_of_ne_zero fun h0 => hidx (by rw [h0]; exact Nat.le_refl _)
        have hj : ((rest.take k).take j).length = j := List.length_take_of_le
          (Nat.le_of_add_le_add_left (Nat.le_trans (Nat.le_add_right _ _) hin))
        have hnon : ((rest.take k).take j).isEmpty = false := by
          rw [List.isEmpty_eq_false_iff, ← List.length_pos_iff, hj]; exact hj1
        simp only [Nat.add_sub_cancel_left, hnon, Bool.false_eq_true, if_false]
        rw [List.take_of_length_le (Nat.le_add_right _ _), List.drop_length_add_append]
        refine next _ _ j ?_ rfl (hj.symm ▸ hj1) (hj.symm ▸ Nat.lt_add_of_pos_right hne)
        rw [← List.append_assoc, List.take_append_drop, List.take_append_drop]
    · -- the delimiter is not yet completely inside the window: `prev` is handed out
      have hc : sub.length ≤ (rest.take k).length := by
        by_cases hkr : k ≤ rest.length
        · rw [List.length_take_of_le hkr]; exact hks k List.mem_cons_self
        · -- the chunk is all that is left, and the data holds the whole delimiter
          have hle := hd.le
          rw [hD, List.length_append] at hle
          rw [List.take_of_length_le (Nat.le_of_not_le hkr)] at hin ⊢
          omega
      rw [absRead, windowStep_none (window_no_false_boundary hd hD' (by rw [List.length_nil]; omega))]
      obtain ⟨i', rfl⟩ := Nat.exists_eq_add_of_le (show prev.length ≤ i by omega)
      exact next _ _ i' (List.take_append_drop k rest).symm rfl (Nat.lt_of_lt_of_le hne hc) (by omega)

/-- A pattern whose first byte does not recur in it cannot overlap itself. -/
theorem delim_after {a : UInt8} {t X : Bytes} (rest : Bytes) (ha : a ∉ t)
    (hfree : ∀ j, isPrefix (a :: t) (X.drop j) = false) :
    Delim (a :: t) (X ++ a :: t ++ rest) X.length := by
  refine ⟨List.cons_ne_nil _ _, ?_, ?_⟩
  · rw [List.append_assoc, List.drop_left]
    exact (isPrefix_iff _ _).mpr ⟨rest, rfl⟩
  · intro j hj
    cases hp : isPrefix (a :: t) ((X ++ a :: t ++ rest).drop j) with
    | false => rfl
    | true =>
      rw [List.append_assoc, List.drop_append_of_le_length (Nat.le_of_lt hj)] at hp
      have hpos : 0 < (X.drop j).length := by rw [List.length_drop]; exact Nat.sub_pos_of_lt hj
      by_cases hin : (a :: t).length ≤ (X.drop j).length
      · rw [isPrefix_append_of_le _ _ _ hin, hfree j] at hp
        cases hp
      · -- straddling the end of `X`: the byte of the pattern that meets the written `a` is in `t`
        obtain ⟨r, hr⟩ := (isPrefix_iff _ _).mp hp
        have h1 : (X.drop j ++ (a :: t ++ rest))[(X.drop j).length]? = some a := by
          rw [List.getElem?_append_right (Nat.le_refl _), Nat.sub_self]; rfl
        rw [hr, List.getElem?_append_left (Nat.lt_of_not_le hin)] at h1
        obtain ⟨n, hn⟩ := Nat.exists_eq_succ_of_ne_zero (Nat.ne_of_gt hpos)
        rw [hn, List.getElem?_cons_succ] at h1
        exact absurd (List.mem_of_getElem? h1) ha

theorem b64count_cons (c : UInt8) (t : Bytes) :
    b64count (c :: t) = (if isB64Char c then 1 else 0) + b64count t := by
  unfold b64count
  cases h : isB64Char c <;> simp [h, Nat.add_comm]

theorem b64count_append (a b : Bytes) : b64count (a ++ b) = b64count a + b64count b := by
  unfold b64count; rw [List.filter_append, List.length_append]

theorem b64count_reverse (a : Bytes) : b64count a.reverse = b64count a := by
  unfold b64count; rw [List.filter_reverse, List.length_reverse]

theorem walkBack_spec (rev : Bytes) (cut left : Nat) (h : left ≤ b64count rev) :
    ∃ m, walkBack rev cut left = cut - m ∧ b64count (rev.take m) = left := by
  fun_induction walkBack rev cut left with
  | case1 => exact ⟨0, rfl, rfl⟩
  | case2 => cases h
  | case3 c t cut left hc ih =>
    rw [b64count_cons, if_pos hc, Nat.add_comm] at h
    obtain ⟨m, hw, hb⟩ := ih (Nat.le_of_succ_le_succ h)
    refine ⟨m + 1, by rw [hw, Nat.sub_sub, Nat.add_comm], ?_⟩
    rw [List.take_succ_cons, b64count_cons, hb, if_pos hc, Nat.add_comm]
  | case4 c t cut left hc ih =>
    rw [b64count_cons, if_neg hc, Nat.zero_add] at h
    obtain ⟨m, hw, hb⟩ := ih h
    refine ⟨m + 1, by rw [hw, Nat.sub_sub, Nat.add_comm], ?_⟩
    rw [List.take_succ_cons, b64count_cons, hb, if_neg hc, Nat.zero_add]

end Aio.C19
