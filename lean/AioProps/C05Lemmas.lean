import AioModel.C05
import AioProps.Basics
/-!
# C05 — the connection invariant

Two invariants of the connection state machine are proved by one induction over the run:
`WInv` (no lost wake-up between `data_received` and `start()`) and `QInv` (the pipelining cap).
Neither reads more than seven fields of the state (`core`, `q4`), so the transcribed functions are
sorted by what they can do to those fields, in three nested preorders on states:

* `Same`  — nothing (timers, transport flags, payload streams, the ready queue, the wire);
* `Proto` — protocol-level code (`data_received`, `resume_reading`, `force_close`, …): the
  coroutines stay where they are, the waiter can only be resolved or cancelled, `QInv` is kept;
* `Task`  — the handler task: it may move `hpc`, but it never arms the waiter and keeps `QInv`.

Each function gets one lemma placing it in the smallest of the three; `startRun`, `runCb` and
`step` are then followed once for `Inv = WInv ∧ QInv`.  `Queued k` is the counting step inside `Proto`: what
one parser output does to the queue.  `Running` is `Inv` while `start()` is not parked on its waiter.
-/
namespace Aio.C05
open Aio

@[simp] theorem setP_waiter (s : St) (i p) : (setP s i p).waiter = s.waiter := rfl
@[simp] theorem setP_hpc (s : St) (i p) : (setP s i p).hpc = s.hpc := rfl
@[simp] theorem setP_spc (s : St) (i p) : (setP s i p).spc = s.spc := rfl
@[simp] theorem setP_messages (s : St) (i p) : (setP s i p).messages = s.messages := rfl
@[simp] theorem pushCb_waiter (s : St) (c) : (pushCb s c).waiter = s.waiter := rfl
@[simp] theorem pushCb_hpc (s : St) (c) : (pushCb s c).hpc = s.hpc := rfl
@[simp] theorem pushCb_spc (s : St) (c) : (pushCb s c).spc = s.spc := rfl
@[simp] theorem pushCb_messages (s : St) (c) : (pushCb s c).messages = s.messages := rfl

/-- the part of the state the lost-wake-up invariant talks about -/
structure Core where
  waiter : Waiter
  hpc : HPc
  spc : SPc
  messages : List QMsg
deriving DecidableEq

def core (s : St) : Core := ⟨s.waiter, s.hpc, s.spc, s.messages⟩

/-- the fields the queueing helpers never touch -/
def w3 (s : St) : Waiter × HPc × SPc := (s.waiter, s.hpc, s.spc)

/-- number of queued entries that are requests (not `_ErrInfo`) -/
def nreq (l : List QMsg) : Nat := (l.filter (fun m => !m.err)).length

/-- as long as the parser kept its side of the contract: `_msg_in_flight` is within the cap and, until
an error entry has been popped (after which the connection closes), it covers every queued request -/
def QInv (s : St) : Prop :=
  s.capViolated = false →
    s.inFlight ≤ Gen.C05.parserMaxMsgQueueSize ∧ (s.errPopped = false → nreq s.messages ≤ s.inFlight)

/-- the fields `QInv` reads -/
def q4 (s : St) : Bool × Nat × Bool × List QMsg := (s.capViolated, s.inFlight, s.errPopped, s.messages)

/-- whenever `start()` is parked on a *pending* waiter the queue is empty (and both coroutines
are where they should be); the second conjunct is what waking `start()` from its lingering read needs:
no handler task exists while it lingers -/
def WInv (s : St) : Prop :=
  (s.waiter = .pending → s.messages = [] ∧ s.spc = .waitMsg ∧ s.hpc = .idle) ∧
  (∀ e, s.spc = .linger e → s.hpc = .idle)

@[simp] theorem core_setP (s : St) (i p) : core (setP s i p) = core s := rfl
@[simp] theorem core_pushCb (s : St) (c) : core (pushCb s c) = core s := rfl
@[simp] theorem core_cancelLinger (s : St) : core (cancelLinger s) = core s := rfl
@[simp] theorem core_cancelKa (s : St) : core (cancelKa s) = core s := rfl
@[simp] theorem core_updCur (s : St) (f) : core (updCur s f) = core s := rfl
@[simp] theorem core_emit (s : St) (e) : core (emit s e) = core s := rfl

@[simp] theorem q4_setP (s : St) (i p) : q4 (setP s i p) = q4 s := rfl
@[simp] theorem q4_pushCb (s : St) (c) : q4 (pushCb s c) = q4 s := rfl
@[simp] theorem q4_cancelLinger (s : St) : q4 (cancelLinger s) = q4 s := rfl
@[simp] theorem q4_cancelKa (s : St) : q4 (cancelKa s) = q4 s := rfl
@[simp] theorem q4_updCur (s : St) (f) : q4 (updCur s f) = q4 s := rfl
@[simp] theorem q4_emit (s : St) (e) : q4 (emit s e) = q4 s := rfl
@[simp] theorem q4_finishH (s : St) (r) : q4 (finishH s r) = q4 s := rfl

@[simp] theorem w3_appendErr (s : St) : w3 (appendErr s) = w3 s := rfl

theorem QInv.frame {s s' : St} (hq : QInv s) (h : q4 s' = q4 s := by unfold q4; with_reducible rfl) :
    QInv s' := by
  simp only [q4, Prod.mk.injEq] at h
  unfold QInv
  rw [h.1, h.2.1, h.2.2.1, h.2.2.2]
  exact hq

def Same (s s' : St) : Prop := core s' = core s ∧ q4 s' = q4 s

theorem Same.rfl {s : St} : Same s s := ⟨_root_.rfl, _root_.rfl⟩

/-- A record update `{ s with … }` of other fields. The two checks are tactic blocks so that they run
after unification has fixed `s` and `s'`, and `with_reducible` so that they only project the record
literal: at default transparency `rfl` first tries to unify the two states field by field. -/
theorem Same.frame {s s' : St} (hc : core s' = core s := by unfold core; with_reducible rfl)
    (hq : q4 s' = q4 s := by unfold q4; with_reducible rfl) : Same s s' :=
  ⟨hc, hq⟩

/-- `Same`, `Proto` and `Task` compose with `after`, outermost call first, the way the nested calls read. -/
theorem Same.after {a b c : St} (h : Same b c) (h0 : Same a b) : Same a c :=
  ⟨h.1.trans h0.1, h.2.trans h0.2⟩

theorem setP_same (s : St) (i p) : Same s (setP s i p) := ⟨core_setP s i p, q4_setP s i p⟩

theorem pushCb_same (s : St) (c) : Same s (pushCb s c) := ⟨core_pushCb s c, q4_pushCb s c⟩

theorem cancelLinger_same (s : St) : Same s (cancelLinger s) := ⟨core_cancelLinger s, q4_cancelLinger s⟩

theorem cancelKa_same (s : St) : Same s (cancelKa s) := ⟨core_cancelKa s, q4_cancelKa s⟩

theorem updCur_same (s : St) (f) : Same s (updCur s f) := ⟨core_updCur s f, q4_updCur s f⟩

theorem emit_same (s : St) (e) : Same s (emit s e) := ⟨core_emit s e, q4_emit s e⟩

theorem wakeP_same (s : St) (i b) : Same s (wakeP s i b) := by
  unfold wakeP
  simp only []
  split
  · exact .rfl
  · exact .after (pushCb_same ..) (setP_same ..)
  · exact .after (pushCb_same ..) (setP_same ..)

theorem protoResumeNoParse_same (s : St) : Same s (protoResumeNoParse s) :=
  ite_both .frame .frame

theorem payloadEvent_same (s : St) (i c e x) : Same s (payloadEvent s i c e x) := by
  unfold payloadEvent
  refine ite_both .rfl (.after (ite_both (wakeP_same _ _ _) .rfl) ?_)
  exact ite_both (.after (protoResumeNoParse_same _) (setP_same ..)) (setP_same ..)

theorem applyOlds_same (s : St) (l) : Same s (applyOlds s l) := by
  induction l generalizing s with
  | nil => exact .rfl
  | cons e es ih => exact (ih _).after (payloadEvent_same ..)

theorem pauseMsgQ_same (s : St) : Same s (pauseMsgQ s) := ite_both .frame .frame

theorem checkPause_same (s : St) : Same s (checkPause s) := ite_both (pauseMsgQ_same s) .rfl

theorem setUpgraded_same (s : St) (o) : Same s (setUpgraded s o) := ite_both .frame .frame

theorem bufferTail_same (s : St) (n) : Same s (bufferTail s n) :=
  ite_both (.after (pauseMsgQ_same _) .frame) .frame

theorem transportClose_same (s : St) : Same s (transportClose s) :=
  ite_both .rfl (.after (pushCb_same ..) .frame)

theorem moveDue_same (s : St) : Same s (moveDue s) := by
  unfold moveDue
  simp only []
  generalize (List.foldl (fun acc t => insertT t acc) [] (dueTimers s)) = due
  induction due generalizing s with
  | nil => exact .rfl
  | cons t ts ih =>
    refine .after (ih _) (.after (pushCb_same ..) ?_)
    split <;> exact .frame

/-- `s'` is reached from `s` by code that does not move either coroutine and can only
*resolve/cancel* the waiter; if the waiter is still pending the queue is unchanged -/
def Step0 (s s' : St) : Prop :=
  s'.hpc = s.hpc ∧ s'.spc = s.spc ∧ (s'.waiter = .pending → s.waiter = .pending ∧ s'.messages = s.messages)

theorem step0_of_w3_msgs {s s' : St} (h : w3 s' = w3 s) (hm : s'.messages = s.messages) : Step0 s s' := by
  simp only [w3, Prod.mk.injEq] at h
  exact ⟨h.2.1, h.2.2, fun hp => ⟨by rw [← h.1]; exact hp, hm⟩⟩

structure Proto (s s' : St) : Prop where
  step0 : Step0 s s'
  qinv : QInv s → QInv s'

theorem Proto.same {s s' : St} (h : Same s s') : Proto s s' :=
  ⟨step0_of_w3_msgs (congrArg (fun c => (c.waiter, c.hpc, c.spc)) h.1) (congrArg Core.messages h.1),
    (·.frame h.2)⟩

theorem Proto.rfl {s : St} : Proto s s := .same .rfl

theorem Proto.frame {s s' : St} (hc : core s' = core s := by unfold core; with_reducible rfl)
    (hq : q4 s' = q4 s := by unfold q4; with_reducible rfl) : Proto s s' :=
  .same ⟨hc, hq⟩

theorem Proto.hpc {s s' : St} (h : Proto s s') : s'.hpc = s.hpc := h.step0.1

theorem Proto.after {a b c : St} (h : Proto b c) (h0 : Proto a b) : Proto a c := by
  refine ⟨⟨h.step0.1.trans h0.step0.1, h.step0.2.1.trans h0.step0.2.1, fun hp => ?_⟩, h.qinv ∘ h0.qinv⟩
  obtain ⟨hb, hm⟩ := h.step0.2.2 hp
  obtain ⟨ha, hm'⟩ := h0.step0.2.2 hb
  exact ⟨ha, hm.trans hm'⟩

structure Task (s s' : St) : Prop where
  spc : s'.spc = s.spc
  unarmed : s'.waiter = .pending → s.waiter = .pending
  qinv : QInv s → QInv s'

theorem Task.proto {s s' : St} (h : Proto s s') : Task s s' :=
  ⟨h.step0.2.1, fun hp => (h.step0.2.2 hp).1, h.qinv⟩

theorem Task.same {s s' : St} (h : Same s s') : Task s s' := .proto (.same h)

theorem Task.rfl {s : St} : Task s s := .same .rfl

theorem Task.after {a b c : St} (h : Task b c) (h0 : Task a b) : Task a c :=
  ⟨h.spc.trans h0.spc, h0.unarmed ∘ h.unarmed, h.qinv ∘ h0.qinv⟩

theorem Task.frame {s s' : St} (hw : s'.waiter = s.waiter := by with_reducible rfl)
    (hs : s'.spc = s.spc := by with_reducible rfl)
    (hq : q4 s' = q4 s := by unfold q4; with_reducible rfl) : Task s s' :=
  ⟨hs, fun hp => hw ▸ hp, (·.frame hq)⟩

theorem nreq_append (a b : List QMsg) : nreq (a ++ b) = nreq a + nreq b := by simp [nreq]

/-- one parser output queued: it took `k` parser slots and added at most `k` requests, nothing else moved -/
def Queued (k : Nat) (s s' : St) : Prop :=
  w3 s' = w3 s ∧ s'.capViolated = s.capViolated ∧ s'.errPopped = s.errPopped ∧
    s'.inFlight = s.inFlight + k ∧ nreq s'.messages ≤ nreq s.messages + k

theorem Queued.trans {j k : Nat} {a b c : St} (h1 : Queued j a b) (h2 : Queued k b c) :
    Queued (k + j) a c := by
  obtain ⟨a1, a2, a3, a4, a5⟩ := h1
  obtain ⟨b1, b2, b3, b4, b5⟩ := h2
  exact ⟨b1.trans a1, b2.trans a2, b3.trans a3, by omega, by omega⟩

theorem Same.queued {s s' : St} (h : Same s s') : Queued 0 s s' := by
  obtain ⟨hc, hq⟩ := h
  simp only [core, q4, Core.mk.injEq, Prod.mk.injEq] at hc hq
  exact ⟨by simp only [w3, hc], hq.1, hq.2.2.1, hq.2.1, by rw [hc.2.2.2]; exact Nat.le_refl _⟩

theorem appendMsgs_queued (s : St) (ms : List MsgInfo) : Queued ms.length s (appendMsgs s ms) := by
  induction ms generalizing s with
  | nil => exact Same.rfl.queued
  | cons m ms ih =>
    have h1 : Queued 1 s (pushMsg s m) := ⟨rfl, rfl, rfl, rfl, Nat.le_of_eq (nreq_append ..)⟩
    -- the `resume_reading` of a body that is already complete is invisible
    exact .trans (ite_both (h1.trans (Same.queued (protoResumeNoParse_same _))) h1) (ih _)

theorem enqueueOut_queued (s : St) (o : POut) : Queued o.slots s (enqueueOut s o) := by
  unfold enqueueOut POut.slots
  split
  · exact ⟨rfl, rfl, rfl, rfl, Nat.le_trans (Nat.le_of_eq (nreq_append ..)) (Nat.le_add_right ..)⟩
  · exact appendMsgs_queued s o.msgs

theorem enqueueOut_nothing (s : St) (o : POut) (h : (o.raised || !o.msgs.isEmpty) = false) :
    (enqueueOut s o).messages = s.messages := by
  simp at h
  unfold enqueueOut
  simp [h.1, h.2, appendMsgs]

theorem parserCall_spec (s : St) {r : POut × St} (hr : parserCall s = r) :
    core r.2 = core s ∧ r.2.inFlight = s.inFlight ∧ r.2.errPopped = s.errPopped ∧
    (r.2.capViolated = false → s.capViolated = false ∧ r.1.respectsCap s.inFlight = true) := by
  subst hr
  unfold parserCall
  split
  · exact ⟨rfl, rfl, rfl, fun h => ⟨h, rfl⟩⟩
  · refine ⟨rfl, rfl, rfl, fun h => ?_⟩
    simp only [Bool.or_eq_false_iff, Bool.not_eq_false'] at h
    exact h

theorem parse_enqueue (s : St) :
    let r := parserCall s
    let x := enqueueOut (applyOlds r.2 r.1.olds) r.1
    Task s x ∧ x.hpc = s.hpc ∧ ((r.1.raised || !r.1.msgs.isEmpty) = false → x.messages = s.messages) := by
  intro r x
  obtain ⟨pc, pi, pe, pv⟩ := parserCall_spec s (r := r) rfl
  obtain ⟨ac, aq⟩ := applyOlds_same r.2 r.1.olds
  obtain ⟨k1, k2, k3, k4, k5⟩ : Queued r.1.slots (applyOlds r.2 r.1.olds) x := enqueueOut_queued _ _
  simp only [core, q4, w3, Core.mk.injEq, Prod.mk.injEq] at pc ac aq k1
  refine ⟨⟨by rw [k1.2.2, ac.2.2.1, pc.2.2.1], fun hp => by rw [← pc.1, ← ac.1, ← k1.1]; exact hp,
      fun hq hv => ?_⟩,
    by rw [k1.2.1, ac.2.1, pc.2.1],
    fun hg => ((enqueueOut_nothing _ _ hg).trans ac.2.2.2).trans pc.2.2.2⟩
  -- `capViolated` is still clear, so it was clear before the call and this output respects the cap
  obtain ⟨hv0, hcap⟩ := pv (by rw [← aq.1, ← k2]; exact hv)
  obtain ⟨hle, hcov⟩ := hq hv0
  rw [k4, k3, aq.2.1, aq.2.2.1, pi, pe]
  rw [aq.2.2.2, pc.2.2.2] at k5
  simp only [POut.respectsCap, Bool.or_eq_true, beq_iff_eq, decide_eq_true_eq] at hcap
  exact ⟨by omega, fun he => by have := hcov he; omega⟩

theorem dataReceived_proto (s : St) (n : Nat) : Proto s (dataReceived s n) := by
  unfold dataReceived
  refine ite_both .rfl (ite_both ?_ (ite_both (.same (bufferTail_same s n)) .rfl))
  refine .after (.same (.after (setUpgraded_same _ _) (checkPause_same _))) ?_
  obtain ⟨ht, hh, hn⟩ := parse_enqueue s
  generalize enqueueOut _ _ = x at ht hh hn ⊢
  -- `notifyWaiter`: the waiter is resolved, or it stays pending because this call queued nothing
  exact ite_elim _ (fun _ => ⟨⟨hh, ht.spc, fun h => nomatch h⟩, fun h => (ht.qinv h).frame rfl⟩)
    (fun hg => ⟨⟨hh, ht.spc, fun hp => ⟨ht.unarmed hp, hn (by simpa [hp] using hg)⟩⟩, ht.qinv⟩)

theorem resumeMsgQ_proto (s : St) : Proto s (resumeMsgQ s) := by
  unfold resumeMsgQ
  have h : Proto s (if !s.upgraded then dataReceived s 0 else s) := ite_both (dataReceived_proto s 0) .rfl
  exact ite_both .rfl (ite_both h (.after (ite_both .frame .frame) h))

theorem protoResume_proto (s : St) : Proto s (protoResume s) := by
  unfold protoResume
  have h : Proto s (if !s.upgraded then dataReceived { s with readingPaused := false } 0
      else { s with readingPaused := false }) :=
    .after (ite_both (dataReceived_proto _ 0) .rfl) .frame
  exact ite_both (.after .frame h) h

theorem drainChunks_proto (s : St) (i n : Nat) : Proto s (drainChunks s i n) := by
  induction n generalizing s with
  | zero => exact .rfl
  | succ n ih =>
    simp only [drainChunks]
    exact (ih _).after (.after (protoResume_proto _) (.same (setP_same ..)))

theorem cancelWaiter_proto (s : St) : Proto s (cancelWaiter s) :=
  ite_both ⟨⟨rfl, rfl, fun h => nomatch h⟩, (·.frame rfl)⟩ .rfl

theorem forceClose_proto (s : St) : Proto s (forceClose s) := by
  unfold forceClose
  have h : Proto s (cancelWaiter { s with forceClose := true }) := .after (cancelWaiter_proto _) .frame
  exact ite_both (.after (.same (.after .frame (transportClose_same _))) h) h

theorem closeConn_proto (s : St) : Proto s (closeConn s) := .after (cancelWaiter_proto _) .frame

theorem connectionLost_proto (s : St) : Proto s (connectionLost s) := by
  unfold connectionLost
  refine ite_both .rfl ?_
  have h : Proto s (cancelKa
      { forceClose s with tPresent := false, managerPresent := false, parserPresent := false }) :=
    .after (.same (.after (cancelKa_same _) .frame)) (forceClose_proto s)
  simp only []
  split
  · exact .after (.same (payloadEvent_same ..)) h
  · exact h

theorem processKeepalive_proto (s : St) : Proto s (processKeepalive s) := by
  unfold processKeepalive
  have h : Proto s { s with kaTimer := none } := .frame
  exact ite_both h (ite_both .frame (ite_both (.after (forceClose_proto _) h) h))

theorem reparseTail_task (s : St) : Task s (reparseTail s) := by
  unfold reparseTail
  refine ite_both (ite_both ?_ .frame) .rfl
  simp only []
  refine ite_both (.after (.same (pauseMsgQ_same _)) ?h)
    (ite_both (.after (.proto (resumeMsgQ_proto _)) ?h) ?h)
  exact .after .frame (.after (parse_enqueue _).1 .frame)

theorem finishH_task (s : St) (r) : Task s (finishH s r) := ⟨rfl, id, (·.frame (q4_finishH s r))⟩

theorem finishFresh_task (s : St) (c st ka) : Task s (finishFresh s c st ka) := by
  unfold finishFresh
  refine ite_both (.after (finishH_task ..) ?h)
    (.after (finishH_task ..) (.after (.same (.after (emit_same ..) (emit_same ..))) ?h))
  exact .after (.same (updCur_same ..)) (.after (reparseTail_task _) .frame)

theorem finishDone_task (s : St) (ka) : Task s (finishDone s ka) :=
  .after (finishH_task ..) (.after (reparseTail_task _) .frame)

theorem handleError_task (s : St) (c st) : Task s (handleError s c st) :=
  ite_both (finishH_task ..) (finishFresh_task ..)

theorem runProg_task (fuel : Nat) (s : St) (prog : Prog) : Task s (runProg fuel s prog) := by
  -- one goal per leaf of `runProg`, in the order of its source
  fun_induction runProg fuel s prog
  · exact finishH_task ..
  · exact finishH_task ..
  · exact finishFresh_task ..
  · exact .frame
  -- read
  · assumption
  · exact handleError_task ..
  · exact .after ‹_› (.proto (drainChunks_proto ..))
  · assumption
  · exact handleError_task ..
  · exact .after .frame (.same (setP_same ..))
  -- prepare
  · assumption
  · exact .after (finishH_task ..) (.same (updCur_same ..))
  · refine .after ‹_› (.same (.after (updCur_same ..) (ite_both (.after (emit_same ..) ?h) ?h)))
    exact .after (emit_same ..) (updCur_same ..)
  -- write
  · assumption
  · exact handleError_task ..
  · exact finishH_task ..
  · exact .after ‹_› (.same (emit_same ..))
  -- fin
  · exact finishH_task ..
  · exact .after (finishDone_task ..) (.same (.after (updCur_same ..) (emit_same ..)))
  · exact finishFresh_task ..
  · exact finishFresh_task ..
  · exact finishFresh_task ..
  · exact .after (handleError_task ..) .frame
  · exact .after (handleError_task ..) .frame
  · exact finishH_task ..
  · exact finishFresh_task ..

theorem handlerStart_task (fuel : Nat) (s : St) (m : QMsg) : Task s (handlerStart fuel s m) := by
  unfold handlerStart
  have h0 : Task s { s with
      cur := some { idx := m.idx, err := m.err, info := m.info }, currentRequest := some m.idx, hpc := .idle } :=
    .frame
  have hrun {s' prog} (h : Task s s') : Task s (runProg fuel { s' with invocations := s'.invocations + 1 } prog) :=
    .after (runProg_task ..) (.after .frame h)
  exact ite_both (.after (finishFresh_task ..) h0)
    (ite_both
      (ite_both
        (ite_both (.after (finishH_task ..) (.after (.same (updCur_same ..)) h0))
          (hrun (.after (.same (emit_same ..)) h0)))
        (ite_both (.after (finishH_task ..) h0) (.after (finishFresh_task ..) h0)))
      (hrun h0))

theorem consumeSlot_eq (s : St) :
    consumeSlot s = { s with inFlight := if s.parserPresent then s.inFlight - 1 else s.inFlight } := by
  unfold consumeSlot; split <;> rfl

theorem markErr_eq (s : St) (m : QMsg) : markErr s m = { s with errPopped := m.err || s.errPopped } := by
  unfold markErr; split <;> simp [*]

/-- popping a request frees exactly one parser slot: the cap invariant survives
`popleft()` + `message_consumed()` + the low-water resume -/
theorem popPrep_task (s : St) (m : QMsg) (rest : List QMsg) (hm : s.messages = m :: rest) :
    Task s (popPrep s m rest) := by
  unfold popPrep
  refine .after (ite_both (.proto (resumeMsgQ_proto _)) .rfl) ?_
  rw [markErr_eq, consumeSlot_eq]
  refine ⟨rfl, id, fun hq => ?_⟩
  unfold QInv at hq ⊢
  simp only [Bool.or_eq_false_iff]
  intro hv
  obtain ⟨hle, hn⟩ := hq hv
  have hi : s.inFlight - 1 ≤ (if s.parserPresent then s.inFlight - 1 else s.inFlight) ∧
      (if s.parserPresent then s.inFlight - 1 else s.inFlight) ≤ s.inFlight := by split <;> omega
  refine ⟨Nat.le_trans hi.2 hle, fun he => ?_⟩
  have := hn he.2
  simp only [hm, nreq, List.filter_cons, he.1, Bool.not_false, if_true, List.length_cons] at this
  simp only [nreq]
  omega

structure Inv (s : St) : Prop where
  winv : WInv s
  qinv : QInv s

theorem Inv.proto {s s' : St} (h : Inv s) (hp : Proto s s') : Inv s' := by
  obtain ⟨hh, hs, hw⟩ := hp.step0
  refine ⟨⟨fun hp' => ?_, fun e he => hh ▸ h.winv.2 e (hs ▸ he)⟩, hp.qinv h.qinv⟩
  obtain ⟨hp0, hm⟩ := hw hp'
  obtain ⟨a, b, c⟩ := h.winv.1 hp0
  exact ⟨hm.trans a, hs.trans b, hh.trans c⟩

/-- `start()` is running: it is not parked on its waiter, so `WInv` asks nothing about the queue -/
structure Running (s : St) : Prop where
  np : s.waiter ≠ .pending
  qinv : QInv s

theorem Running.task {s s' : St} (hr : Running s) (h : Task s s') : Running s' :=
  ⟨fun hp => hr.np (h.unarmed hp), h.qinv hr.qinv⟩

theorem Running.frame {s s' : St} (hr : Running s) (hw : s'.waiter = s.waiter := by with_reducible rfl)
    (hq : q4 s' = q4 s := by unfold q4; with_reducible rfl) : Running s' :=
  ⟨hw ▸ hr.np, hr.qinv.frame hq⟩

theorem Running.inv {s : St} (hr : Running s) (hl : ∀ e, s.spc = .linger e → s.hpc = .idle) : Inv s :=
  ⟨⟨fun hp => absurd hp hr.np, hl⟩, hr.qinv⟩

theorem Running.done {s : St} (hr : Running s) (hd : s.spc = .done) : Inv s :=
  hr.inv (fun _ he => SPc.noConfusion (hd.symm.trans he))

/-- the continuations of `start()` that are entered with no handler task -/
def needIdle : SCont → Bool
  | .pop => false
  | .afterHandler _ => false
  | _ => true

theorem startRun_inv : ∀ (fuel : Nat) (s : St) (k : SCont),
    Running s → (needIdle k = true → s.hpc = .idle) → Inv (startRun fuel s k)
  | 0, s, k, hr, _ => by simp only [startRun]; exact hr.frame.done rfl
  | fuel + 1, s, k, hr, hi => by
    have ih := startRun_inv fuel
    -- protocol-level code run from an idle `start()` leaves it running and idle
    have go {s' k} (hp : Proto s s') (hidle : s.hpc = .idle) : Inv (startRun fuel s' k) :=
      ih _ _ (hr.task (.proto hp)) (fun _ => hp.hpc.trans hidle)
    cases k with
    | top =>
      simp only [startRun]
      refine ite_both (ih _ _ hr hi) ?_
      split
      · exact ⟨⟨fun _ => ⟨‹_›, rfl, hi rfl⟩, fun _ he => nomatch he⟩, hr.qinv.frame⟩
      · exact ih _ _ hr (fun h => nomatch h)
    | pop =>
      simp only [startRun]
      split
      · exact hr.frame.done rfl
      · next m rest hm =>
        have h1 := hr.task (popPrep_task s m rest hm)
        refine ite_both (h1.frame.done rfl) ?_
        have h2 := h1.task (handlerStart_task fuel _ m)
        split
        · exact ih _ _ h2 (fun h => nomatch h)
        · exact h2.frame.inv (fun _ he => nomatch he)
    | afterHandler r =>
      simp only [startRun]
      have hr' : Running { s with hpc := .idle } := hr.frame
      cases r with
      | connErr => exact ih _ _ hr' (fun _ => rfl)
      | cancelled => exact ((hr'.task (.proto (forceClose_proto _))).frame).done rfl
      | crashed =>
        have hf := forceClose_proto { s with hpc := .idle }
        exact ih _ _ (hr'.task (.proto hf)) (fun _ => hf.hpc)
      | resp ka reset =>
        have hk {k} : Inv (startRun fuel { { s with hpc := .idle } with keepalive := ka } k) :=
          ih _ _ hr'.frame (fun _ => rfl)
        refine ite_both (ih _ _ hr' (fun _ => rfl)) ?_
        split
        · exact hk
        · exact ite_both (ite_both hk hk) hk
    | linger endT =>
      have hidle := hi rfl
      simp only [startRun]
      split
      · exact ih _ _ hr hi
      · next c _ =>
        have hc : Proto s (cancelLinger s) := .same (cancelLinger_same s)
        have hf := Proto.after (forceClose_proto _) hc
        refine ite_both (go (.same (.after (cancelLinger_same _) .frame)) hidle)
          (ite_both
            (ite_both (go hf hidle)
              (ite_both (go (.after (drainChunks_proto ..) hc) hidle)
                (ite_both (go hf hidle) ?_)))
            (go hc hidle))
        have park {y} (hy : Same s y) : Inv { y with spc := .linger endT } :=
          have hry := hr.task (.same hy)
          ⟨⟨fun hp => absurd hp hry.np, fun _ _ => (congrArg Core.hpc hy.1).trans hidle⟩, hry.qinv.frame⟩
        refine park ?_
        split
        · exact setP_same ..
        · exact .after .frame (setP_same ..)
    | afterLinger =>
      simp only [startRun]
      split
      · exact ih _ _ hr hi
      · exact go (.after (.same (payloadEvent_same ..)) (ite_both (closeConn_proto s) .rfl)) (hi rfl)
    | decide =>
      simp only [startRun]
      refine ite_both ?_ (go .frame (hi rfl))
      split <;> exact go .frame (hi rfl)
    | epilogue =>
      simp only [startRun]
      exact (hr.frame.done rfl).proto (ite_both (ite_both (.same (transportClose_same _)) .rfl) .rfl)

theorem runCb_inv (s : St) (c : Cb) (h : Inv s) : Inv (runCb s c) := by
  -- when `start()` is not at its "wait for next request" await, its waiter is not pending
  have running (hs : s.spc ≠ .waitMsg) : Running s := ⟨fun hp => hs (h.winv.1 hp).2.1, h.qinv⟩
  cases c with
  | startWake =>
    simp only [runCb]
    split
    · split
      · exact ite_both (Running.done ⟨nofun, h.qinv.frame⟩ rfl)
          (startRun_inv _ _ _ ⟨nofun, h.qinv.frame⟩ (fun hh => nomatch hh))
      · exact Running.done ⟨nofun, h.qinv.frame⟩ rfl
      · exact h
    · next hs =>
      split
      · exact startRun_inv _ _ _ (running (by rw [hs]; nofun)) (fun hh => nomatch hh)
      · exact h
    · next endT hs =>
      have hr := running (by rw [hs]; nofun)
      have hidle := h.winv.2 endT hs
      have go {s' k} (hp : Proto s s') : Inv (startRun (fuelOf s') s' k) :=
        startRun_inv _ _ _ (hr.task (.proto hp)) (fun _ => hp.hpc.trans hidle)
      split
      · exact ite_both
          (go (.after (forceClose_proto _) (.same (.after (cancelLinger_same _) (setP_same ..)))))
          (go (ite_both (.after (drainChunks_proto ..) (.same (.after (cancelLinger_same _) (setP_same ..))))
            (.same (setP_same ..))))
      · exact h
    · exact h
  | handlerWake =>
    simp only [runCb]
    split
    · exact h
    · next s' hs' =>
      -- the handler task only runs when it is parked, i.e. not idle: then the waiter is not pending
      have key : Task s s' ∧ s.hpc ≠ .idle := by
        split at hs'
        · next rest hh =>
          split at hs'
          · cases hs'
            exact ⟨.after (runProg_task ..) .frame, by rw [hh]; nofun⟩
          · cases hs'
        · next rest hh =>
          split at hs'
          · cases hs'
            exact ⟨.after (runProg_task ..)
              (ite_both (.proto (.after (drainChunks_proto ..) (.same (setP_same ..)))) (.same (setP_same ..))),
              by rw [hh]; nofun⟩
          · cases hs'
        · cases hs'
      have hr : Running s' := Running.task ⟨fun hp => key.2 (h.winv.1 hp).2.2, h.qinv⟩ key.1
      have hi : Inv s' := hr.inv (fun e he => absurd (h.winv.2 e (key.1.spc ▸ he)) key.2)
      split
      · exact ite_both (hi.proto (.same (pushCb_same ..))) hi
      · exact hi
  | connLost => exact h.proto (.after (connectionLost_proto _) .frame)
  | kaFire => exact h.proto (processKeepalive_proto s)
  | sleepFire => exact h.proto (.same (.after (pushCb_same ..) .frame))
  | lingerFire =>
    simp only [runCb]
    split
    · split
      · exact h.proto (ite_both (.same (.after (pushCb_same ..) (.after (setP_same ..) .frame))) .frame)
      · exact h
    · exact h

theorem step_inv (s : St) (l : Label) (h : Inv s) : Inv (step s l) := by
  cases l with
  | data n => exact ite_both h (h.proto (dataReceived_proto s n))
  | lost => exact ite_both h (h.proto (.after (connectionLost_proto _) .frame))
  | tick =>
    simp only [step]
    split
    · exact h
    · exact runCb_inv _ _ (h.proto .frame)
  | fire limit =>
    simp only [step]
    refine ite_both h ?_
    split
    · exact ite_both (h.proto (.after (.same (moveDue_same _)) .frame)) (h.proto .frame)
    · exact h.proto .frame

theorem init_inv (cfg : Cfg) (progs : List Prog) (oracle : List POut) : Inv (init cfg progs oracle) :=
  startRun_inv _ _ _ ⟨nofun, fun _ => ⟨Nat.zero_le _, fun _ => Nat.le_refl 0⟩⟩ (fun _ => rfl)

theorem run_inv (s : St) (ls : List Label) (h : Inv s) : Inv (run s ls) := by
  induction ls generalizing s with
  | nil => exact h
  | cons l ls ih => exact ih _ (step_inv s l h)

end Aio.C05
