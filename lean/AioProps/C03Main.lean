import AioProps.C03
/-!
# C03 — the two-cut theorem for `HttpParser.feed_data`

`feedLoop_append`: if processing `a` alone ended without an error (and without handing bytes
back to an upgraded connection), then carrying on from the saved state with `tail ++ b` gives
the same final state, the same error, and the same observable events as processing `a ++ b`
in one go — for every state, configuration, `yarl` oracle and split.  The body parser enters
through its laws (`PayloadLaws`): a completed body stays completed when more bytes follow, and
feeding a body in two pieces delivers the same bytes as feeding it at once.  They are proved
below for Content-Length and close-delimited bodies, and in `C03Chunked` for the chunked state
machine.
-/
namespace Aio.Http
open Aio

/-- observable tokens: data flattened to bytes, so that split deliveries compare equal -/
inductive Tok where
  | msg (m : Msg) (hp : Bool) | byte (b : UInt8) | beginChunk | endChunk | eof | perr (e : Err)

def projEv : Ev → List Tok
  | .msg m hp => [.msg m hp]
  | .data bs => bs.map .byte
  | .beginChunk => [.beginChunk]
  | .endChunk => [.endChunk]
  | .eof => [.eof]
  | .payloadErr e => [.perr e]

def proj (evs : List Ev) : List Tok := evs.flatMap projEv

@[simp] theorem proj_append (a b : List Ev) : proj (a ++ b) = proj a ++ proj b := by
  simp [proj]
@[simp] theorem proj_nil : proj [] = [] := rfl

@[simp] theorem proj_dataEv (x : Bytes) : proj (dataEv x) = x.map Tok.byte := by
  unfold dataEv
  split
  · next h =>
    have hx : x = [] := by simpa using h
    subst hx; rfl
  · simp [proj, projEv]

/-- the laws of the body parser, for the body-parser states satisfying `G`; `Adm` is the side
condition on the *saved* state under which carrying on from it is the same as not having stopped
(for chunked bodies: the buffered partial line does not trip the early length check) -/
structure PayloadLaws (cfg : Cfg) (G Adm : PState → Prop) : Prop where
  complete_stable : ∀ (p : PState) (a b rest : Bytes) (ev : List Ev), G p →
    payloadFeed cfg p a = (.complete rest, ev) → payloadFeed cfg p (a ++ b) = (.complete (rest ++ b), ev)
  complete_shrinks : ∀ (p : PState) (a rest : Bytes) (ev : List Ev), G p → a ≠ [] →
    payloadFeed cfg p a = (.complete rest, ev) → rest.length < a.length
  needs_closed : ∀ (p p' : PState) (a : Bytes) (ev : List Ev), G p →
    payloadFeed cfg p a = (.needs p', ev) → G p'
  needs_split : ∀ (p p' : PState) (a b : Bytes) (ev1 : List Ev), G p →
    payloadFeed cfg p a = (.needs p', ev1) → Adm p' → b ≠ [] →
    (payloadFeed cfg p (a ++ b)).1 = (payloadFeed cfg p' b).1 ∧
    proj (payloadFeed cfg p (a ++ b)).2 = proj (ev1 ++ (payloadFeed cfg p' b).2)

/-- the current body-parser state (if any) satisfies `G` -/
def StG (G : PState → Prop) (st : St) : Prop := ∀ p, st.payload = some p → G p

/-- outcomes that agree on everything observable; failed states count as equal, because a parser that fails
inside a body keeps the body state from before the failing call, and that depends on the cut -/
def Equiv (o o' : FeedOut) : Prop :=
  (o.st = o'.st ∨ (o.st.failed = true ∧ o'.st.failed = true)) ∧
  proj o.evs = proj o'.evs ∧ o.err = o'.err ∧ o.rest = o'.rest

theorem Equiv.refl (o : FeedOut) : Equiv o o := ⟨Or.inl rfl, rfl, rfl, rfl⟩

theorem feedLoop_acc (cfg : Cfg) (urlOk : Bool → Bytes → Bool) :
    ∀ (f : Nat) (st : St) (d : Bytes) (acc : List Ev),
      feedLoop cfg urlOk f st d acc =
        { feedLoop cfg urlOk f st d [] with evs := acc ++ (feedLoop cfg urlOk f st d []).evs } := by
  intro f
  induction f with
  | zero => intro st d acc; simp [feedLoop]
  | succ n ih =>
    intro st d acc
    simp only [feedLoop]
    split
    · simp
    · split
      · simp
      · next st' d' ev' _ =>
        split
        · rw [ih st' d' (acc ++ ev'), ih st' d' ([] ++ ev')]
          simp
        · simp

theorem feedLoop_fuel (cfg : Cfg) (urlOk : Bool → Bytes → Bool) :
    ∀ (f1 f2 : Nat) (st : St) (d : Bytes) (acc : List Ev), d.length < f1 → d.length < f2 →
      feedLoop cfg urlOk f1 st d acc = feedLoop cfg urlOk f2 st d acc := by
  intro f1
  induction f1 with
  | zero => intro f2 st d acc h; omega
  | succ n ih =>
    intro f2 st d acc h1 h2
    cases f2 with
    | zero => omega
    | succ m =>
      simp only [feedLoop]
      split
      · rfl
      · split
        · rfl
        · next st' d' ev' _ =>
          split
          · next hlt => exact ih m st' d' _ (by omega) (by omega)
          · rfl

theorem st_tail_eta (st : St) (h : st.tail = []) : { st with tail := [] } = st := by
  cases st; simp_all

theorem AtLine.append {cfg : Cfg} {st : St} {a : Bytes} {pos : Nat} (h : AtLine cfg st a pos) (b : Bytes) :
    AtLine cfg st (a ++ b) pos :=
  ⟨h.payload, h.upgraded, findSep_append_stable cfg.lax a b pos h.sep⟩

/-- **A continuing iteration is unaffected by later bytes.** If one iteration on buffer `a`
consumed something and goes round again with rest `a'`, then on `a ++ b` it does exactly the
same and goes round with `a' ++ b`. -/
theorem stepOnce_cont_append (cfg : Cfg) (urlOk : Bool → Bytes → Bool) {G Adm : PState → Prop} (hl : PayloadLaws cfg G Adm)
    (st st' : St) (a a' b : Bytes) (ev : List Ev) (hwf : StG G st)
    (h : stepOnce cfg urlOk st a = .cont st' a' ev) :
    stepOnce cfg urlOk st (a ++ b) = .cont st' (a' ++ b) ev := by
  have hs := stepOnce_spec cfg urlOk st a
  rw [h] at hs
  cases hs with
  | complete hp hf => exact (StepSpec.complete hp (hl.complete_stable _ a b _ _ (hwf _ hp) hf)).eq
  | blank ha hb =>
    have := findSep_bound _ _ _ ha.sep
    rw [← List.drop_append_of_le_length (l₂ := b) (Nat.le_of_add_left_le this)]
    exact (StepSpec.blank (ha.append b) hb).eq
  | @line pos _ ha hb hsc hal hne =>
    have := findSep_bound _ _ _ ha.sep
    rw [← List.drop_append_of_le_length (l₂ := b) this]
    exact (StepSpec.line (ha.append b) hb hsc (by rwa [List.take_append_of_le_length (Nat.le_of_add_right_le this)]) hne).eq
  | @head pos _ _ _ _ ha hb hsc hal he ho =>
    have := findSep_bound _ _ _ ha.sep
    rw [← List.drop_append_of_le_length (l₂ := b) this]
    exact (StepSpec.head (ha.append b) hb hsc (by rwa [List.take_append_of_le_length (Nat.le_of_add_right_le this)]) he ho).eq

/-- what a continuing iteration preserves: the loop invariant (`tail = []`, well-formed body
state) and progress (the rest is shorter) -/
theorem stepOnce_cont_inv (cfg : Cfg) (urlOk : Bool → Bytes → Bool) {G Adm : PState → Prop} (hl : PayloadLaws cfg G Adm)
    (st st' : St) (a a' : Bytes) (ev : List Ev) (ha : a ≠ []) (ht : st.tail = []) (hw : StG G st)
    (h : stepOnce cfg urlOk st a = .cont st' a' ev) :
    st'.tail = [] ∧ a'.length < a.length := by
  have hs := stepOnce_spec cfg urlOk st a
  rw [h] at hs
  have hsl := sepLen_pos cfg.lax
  cases hs with
  | complete hp hf =>
    exact ⟨(afterBody_frame st).2.1.trans ht, hl.complete_shrinks _ a _ _ (hw _ hp) ha hf⟩
  | blank hal | line hal => have := findSep_bound _ _ _ hal.sep; exact ⟨ht, by rw [List.length_drop]; omega⟩
  | head hal _ _ _ _ ho =>
    have := findSep_bound _ _ _ hal.sep
    obtain ⟨_, _, _, _, _, _, _, _, rfl, _⟩ := onHeaderBlock_ok ho
    exact ⟨ht, by rw [List.length_drop]; omega⟩

theorem stepOnce_stop_cases (cfg : Cfg) (urlOk : Bool → Bytes → Bool) (st : St) (a : Bytes) (o : FeedOut)
    (ha : a ≠ []) (h : stepOnce cfg urlOk st a = .stop o)
    (he : o.err = none) (hr : o.rest = []) (hpe : ∀ e, Ev.payloadErr e ∉ o.evs) :
    (st.payload = none ∧ o = { st := { st with tail := a }, evs := [], rest := [], err := none }) ∨
    (∃ p p' ev, st.payload = some p ∧ payloadFeed cfg p a = (.needs p', ev) ∧
      o = { st := { st with payload := some p' }, evs := ev, rest := [], err := none }) := by
  have hs := stepOnce_spec cfg urlOk st a
  rw [h] at hs
  cases hs with
  | needs hp hf => exact .inr ⟨_, _, _, hp, hf, rfl⟩
  | raised | refused | badLine | badHead => cases he
  | swallowed => exact absurd (List.mem_append_right _ (List.mem_singleton.2 rfl)) (hpe _)
  | upgraded => exact absurd hr ha
  | partLine hp =>
    rcases partialLine_cases cfg st a [] with ⟨e, hpl⟩ | ⟨hpl, _⟩
    · rw [hpl] at he; cases he
    · exact .inl ⟨hp, hpl⟩

/-- every body-parser state that the run on `d` goes through satisfies `G` -/
def GoodRun (cfg : Cfg) (urlOk : Bool → Bytes → Bool) (G : PState → Prop) : Nat → St → Bytes → Prop
  | 0, _, _ => True
  | f + 1, st, d =>
    d = [] ∨ (StG G st ∧
      match stepOnce cfg urlOk st d with
      | .stop _ => True
      | .cont st' d' _ => GoodRun cfg urlOk G f st' d')

theorem GoodRun.step {cfg : Cfg} {urlOk : Bool → Bytes → Bool} {G : PState → Prop} {st : St} {d : Bytes}
    (h : ∀ f, GoodRun cfg urlOk G f st d) (hd : d ≠ []) :
    StG G st ∧ ∀ {st' d' ev}, stepOnce cfg urlOk st d = .cont st' d' ev → ∀ f, GoodRun cfg urlOk G f st' d' := by
  refine ⟨((h 1).resolve_left hd).1, fun hs f => ?_⟩
  have := ((h (f + 1)).resolve_left hd).2
  rwa [hs] at this

theorem feedLoop_body_cut (cfg : Cfg) (urlOk : Bool → Bytes → Bool) {G Adm : PState → Prop} (hl : PayloadLaws cfg G Adm)
    (st : St) (p p' : PState) (a b : Bytes) (acc ev1 : List Ev) (hp : st.payload = some p) (hg : G p)
    (hpf : payloadFeed cfg p a = (.needs p', ev1)) (hadm : Adm p') (hb : b ≠ [])
    (f2 f3 : Nat) (hf2 : b.length < f2) (hf3 : (a ++ b).length < f3) :
    Equiv (feedLoop cfg urlOk f3 st (a ++ b) acc)
      (feedLoop cfg urlOk f2 { st with payload := some p' } b (acc ++ ev1)) := by
  obtain ⟨hres, hproj⟩ := hl.needs_split p p' a b ev1 hg hpf hadm hb
  have hab : a ++ b ≠ [] := List.append_ne_nil_of_right_ne_nil a hb
  -- both runs are given the same fuel, so that after the body they continue alike
  have hf : b.length < (a ++ b).length + 1 := by rw [List.length_append]; omega
  rw [feedLoop_fuel cfg urlOk f3 _ st _ acc hf3 (Nat.lt_succ_self _), feedLoop_fuel cfg urlOk f2 _ _ b _ hf2 hf,
    feedLoop_succ cfg urlOk _ st (a ++ b) acc hab, stepOnce_payload cfg urlOk st p (a ++ b) hp,
    feedLoop_succ cfg urlOk _ _ b (acc ++ ev1) hb, stepOnce_payload cfg urlOk _ p' b rfl]
  rcases hq : payloadFeed cfg p' b with ⟨r2, ev2⟩
  rcases hq' : payloadFeed cfg p (a ++ b) with ⟨r2', ev'⟩
  rw [hq, hq'] at hres hproj
  simp only at hres hproj
  subst hres
  have hab2 : afterBody ({ st with payload := some p' } : St) = afterBody st := rfl
  have hev : proj (acc ++ ev') = proj (acc ++ ev1 ++ ev2) := by
    simp only [proj_append, hproj, List.append_assoc]
  cases r2' with
  | needs p'' => exact ⟨Or.inl rfl, hev, rfl, rfl⟩
  | err e rr =>
    have hev' : proj (acc ++ (ev' ++ [.payloadErr e])) = proj (acc ++ ev1 ++ (ev2 ++ [.payloadErr e])) := by
      simp only [proj_append, hproj, List.append_assoc]
    cases rr
    · exact ⟨Or.inl (by rw [hab2]), hev', rfl, rfl⟩
    · exact ⟨Or.inr ⟨rfl, rfl⟩, hev', rfl, rfl⟩
  | complete rest =>
    have hsh1 : rest.length < b.length := hl.complete_shrinks p' b rest ev2 (hl.needs_closed p p' a ev1 hg hpf) hb hq
    have hsh2 : rest.length < (a ++ b).length := by rw [List.length_append]; omega
    simp only [hsh1, hsh2, if_true, hab2]
    rw [feedLoop_acc cfg urlOk _ _ rest (acc ++ ev'), feedLoop_acc cfg urlOk _ _ rest (acc ++ ev1 ++ ev2)]
    exact ⟨Or.inl rfl, by simp only [proj_append, hproj, List.append_assoc], rfl, rfl⟩

/-- **Two-cut theorem.** Processing `a` and then carrying on from the saved state with
`tail ++ b` is observably the same as processing `a ++ b` at once, provided the first part ended
without an error (and without handing bytes back to an upgraded connection) and every body
the run goes through is one for which the body-parser laws hold. -/
theorem feedLoop_append (cfg : Cfg) (urlOk : Bool → Bytes → Bool) {G Adm : PState → Prop}
    (hl : PayloadLaws cfg G Adm) :
    ∀ (f1 : Nat) (st : St) (a b : Bytes) (acc : List Ev), a.length < f1 → st.tail = [] →
      (∀ f, GoodRun cfg urlOk G f st (a ++ b)) →
      (feedLoop cfg urlOk f1 st a acc).err = none →
      (feedLoop cfg urlOk f1 st a acc).rest = [] →
      (∀ e, Ev.payloadErr e ∉ (feedLoop cfg urlOk f1 st a acc).evs) →
      (∀ p', (feedLoop cfg urlOk f1 st a acc).st.payload = some p' → Adm p') →
      ∀ f2 f3, ((feedLoop cfg urlOk f1 st a acc).st.tail ++ b).length < f2 → (a ++ b).length < f3 →
        Equiv (feedLoop cfg urlOk f3 st (a ++ b) acc)
              (feedLoop cfg urlOk f2 { (feedLoop cfg urlOk f1 st a acc).st with tail := [] }
                ((feedLoop cfg urlOk f1 st a acc).st.tail ++ b) (feedLoop cfg urlOk f1 st a acc).evs) := by
  intro f1 st a b acc
  generalize ho : feedLoop cfg urlOk f1 st a acc = o1
  induction f1 generalizing st a acc with
  | zero => intro h; omega
  | succ n ih =>
    intro hlen ht hrun he hr hpe hadm f2 f3 hf2 hf3
    by_cases ha : a = []
    · subst ha
      rw [feedLoop_nil] at ho
      subst ho
      simp only [ht, List.nil_append] at hf2 ⊢
      rw [st_tail_eta st ht, feedLoop_fuel cfg urlOk f3 f2 st b acc (by simpa using hf3) hf2]
      exact Equiv.refl _
    · have hab : a ++ b ≠ [] := List.append_ne_nil_of_left_ne_nil ha b
      obtain ⟨hw, hnext⟩ := GoodRun.step hrun hab
      rw [feedLoop_succ cfg urlOk n st a acc ha] at ho
      cases hs : stepOnce cfg urlOk st a with
      | cont st' a' ev =>
        obtain ⟨ht', hsh⟩ := stepOnce_cont_inv cfg urlOk hl st st' a a' ev ha ht hw hs
        have hwhole := stepOnce_cont_append cfg urlOk hl st st' a a' b ev hw hs
        rw [hs] at ho
        simp only [hsh, if_true] at ho
        have hsh' : (a' ++ b).length < (a ++ b).length := by simp; omega
        rw [feedLoop_fuel cfg urlOk f3 _ st _ acc hf3 (Nat.lt_succ_self _), feedLoop_succ cfg urlOk _ st (a ++ b) acc hab,
          hwhole]
        simp only [hsh', if_true]
        exact ih st' a' (acc ++ ev) ho (by omega) ht' (hnext hwhole) he hr hpe hadm f2 _ hf2 hsh'
      | stop o =>
        rw [hs] at ho
        subst ho
        simp only [] at he hr hpe hadm hf2 ⊢
        have hpe' : ∀ e, Ev.payloadErr e ∉ o.evs := fun e hm => hpe e (List.mem_append_right _ hm)
        rcases stepOnce_stop_cases cfg urlOk st a o ha hs he hr hpe' with ⟨hp, ho⟩ | ⟨p, p', oevs, hp, hpf, ho⟩
        · -- partial line kept as the tail
          subst ho
          simp only [List.append_nil] at hf2 ⊢
          have e1 : ({ ({ st with tail := a } : St) with tail := [] } : St) = st := st_tail_eta st ht
          rw [e1, feedLoop_fuel cfg urlOk f3 f2 st (a ++ b) acc hf3 hf2]
          exact Equiv.refl _
        · -- the body parser needs more input
          subst ho
          have e1 : ({ ({ st with payload := some p' } : St) with tail := [] } : St) = { st with payload := some p' } :=
            st_tail_eta _ ht
          simp only [] at hf2 hadm ⊢
          rw [e1]
          have hnil : st.tail ++ b = b := by rw [ht]; rfl
          rw [hnil] at hf2 ⊢
          by_cases hb : b = []
          · subst hb
            rw [feedLoop_fuel cfg urlOk f2 (0 + 1) _ [] _ hf2 (Nat.lt_succ_self _), feedLoop_nil, List.append_nil,
              feedLoop_fuel cfg urlOk f3 (n + 1) st a acc (by simpa using hf3) hlen, feedLoop_succ cfg urlOk n st a acc ha, hs]
            exact Equiv.refl _
          · exact feedLoop_body_cut cfg urlOk hl st p p' a b acc oevs hp (hw p hp) hpf (hadm p' rfl) hb f2 f3 hf2 hf3

/-- Content-Length (with bytes left), close-delimited and absent bodies -/
def NonChunked (p : PState) : Prop := p.type ≠ .chunked ∧ (p.type = .length → p.length ≠ 0)

theorem payloadFeed_passive (cfg : Cfg) (p : PState) (hc : p.type ≠ .chunked) (hl : p.type ≠ .length) :
    ∃ ev : Bytes → List Ev, (∀ a b, proj (ev (a ++ b)) = proj (ev a ++ ev b)) ∧
      ∀ a, payloadFeed cfg p a = (.needs p, ev a) := by
  cases hty : p.type with
  | chunked => exact absurd hty hc
  | length => exact absurd hty hl
  | untilEof =>
    exact ⟨dataEv, fun a b => by simp only [proj_append, proj_dataEv, List.map_append],
      fun a => payloadFeed_untilEof cfg p a hty⟩
  | none => exact ⟨fun _ => [], fun _ _ => rfl, fun a => payloadFeed_none cfg p a hty⟩

theorem payloadLaws_nonChunked (cfg : Cfg) : PayloadLaws cfg NonChunked (fun _ => True) := by
  refine ⟨fun p a b rest ev hg h => ?_, fun p a rest ev hg ha h => ?_, fun p p' a ev hg h => ?_,
    fun p p' a b ev1 hg h _ hb => ?_⟩
  · by_cases hl : p.type = .length
    · rcases payloadFeed_length cfg p a hl with ⟨hle, hf⟩ | ⟨_, hf⟩ <;> rw [hf] at h <;> cases h
      rcases payloadFeed_length cfg p (a ++ b) hl with ⟨_, hf'⟩ | ⟨hlt, _⟩
      · rw [hf', List.take_append_of_le_length hle, List.drop_append_of_le_length hle]
      · rw [List.length_append] at hlt; omega
    · obtain ⟨_, _, hf⟩ := payloadFeed_passive cfg p hg.1 hl
      rw [hf] at h; cases h
  · by_cases hl : p.type = .length
    · have := hg.2 hl
      have : 0 < a.length := List.length_pos_iff.mpr ha
      rcases payloadFeed_length cfg p a hl with ⟨hle, hf⟩ | ⟨_, hf⟩ <;> rw [hf] at h <;> cases h
      rw [List.length_drop]; omega
    · obtain ⟨_, _, hf⟩ := payloadFeed_passive cfg p hg.1 hl
      rw [hf] at h; cases h
  · by_cases hl : p.type = .length
    · rcases payloadFeed_length cfg p a hl with ⟨hle, hf⟩ | ⟨hlt, hf⟩ <;> rw [hf] at h <;> cases h
      exact ⟨hg.1, fun _ => by show p.length - a.length ≠ 0; omega⟩
    · obtain ⟨_, _, hf⟩ := payloadFeed_passive cfg p hg.1 hl
      rw [hf] at h; cases h; exact hg
  · by_cases hl : p.type = .length
    · rcases payloadFeed_length cfg p a hl with ⟨hle, hf⟩ | ⟨hlt, hf⟩ <;> rw [hf] at h <;> cases h
      obtain ⟨_, x, t, hf2, hf'⟩ := payloadFeed_length_cut cfg p a b hl hlt
      rw [hf2, hf']
      exact ⟨rfl, by simp only [proj_append, proj_dataEv, List.map_append, List.append_assoc]⟩
    · obtain ⟨ev, hev, hf⟩ := payloadFeed_passive cfg p hg.1 hl
      rw [hf] at h; cases h
      rw [hf, hf]; exact ⟨rfl, hev a b⟩

/-- **Segmentation independence of `feed_data` (streams without chunked bodies).** -/
theorem feedLoop_append_nonChunked (cfg : Cfg) (urlOk : Bool → Bytes → Bool)
    (f1 : Nat) (st : St) (a b : Bytes) (acc : List Ev) (hf1 : a.length < f1) (ht : st.tail = [])
    (hrun : ∀ f, GoodRun cfg urlOk NonChunked f st (a ++ b))
    (he : (feedLoop cfg urlOk f1 st a acc).err = none)
    (hr : (feedLoop cfg urlOk f1 st a acc).rest = [])
    (hpe : ∀ e, Ev.payloadErr e ∉ (feedLoop cfg urlOk f1 st a acc).evs)
    (f2 f3 : Nat) (hf2 : ((feedLoop cfg urlOk f1 st a acc).st.tail ++ b).length < f2)
    (hf3 : (a ++ b).length < f3) :
    Equiv (feedLoop cfg urlOk f3 st (a ++ b) acc)
          (feedLoop cfg urlOk f2 { (feedLoop cfg urlOk f1 st a acc).st with tail := [] }
            ((feedLoop cfg urlOk f1 st a acc).st.tail ++ b) (feedLoop cfg urlOk f1 st a acc).evs) :=
  feedLoop_append cfg urlOk (payloadLaws_nonChunked cfg) f1 st a b acc hf1 ht hrun he hr hpe (fun _ _ => trivial) f2 f3 hf2 hf3

theorem stG_of_no_payload (G : PState → Prop) (st : St) (h : st.payload = none) : StG G st := by
  intro p hp; rw [h] at hp; cases hp

/-- Non-vacuity: for the request line `GET / HTTP/1.1` cut as `GET / HT` | `TP/1.1\r\n` the
hypotheses of the two-cut theorem hold (no body is ever entered; the first part ends without
error, keeping its bytes as the tail). -/
example : (feedLoop {} (fun _ _ => true) 9 {} [71, 69, 84, 32, 47, 32, 72, 84] []).err = none ∧
    (feedLoop {} (fun _ _ => true) 9 {} [71, 69, 84, 32, 47, 32, 72, 84] []).rest = [] ∧
    (feedLoop {} (fun _ _ => true) 9 {} [71, 69, 84, 32, 47, 32, 72, 84] []).st.tail = [71, 69, 84, 32, 47, 32, 72, 84] := by
  decide +kernel

end Aio.Http
