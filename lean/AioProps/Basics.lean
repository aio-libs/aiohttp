/-! Facts about core Lean notions that the proofs of several properties use. -/
namespace Aio

/-- Case analysis on an `if` under an arbitrary predicate.  Applied by unification
(`refine ite_elim P (fun h => ?_) fun h => ?_`) it leaves the two branches as goals without
traversing the goal the way `split` does, which matters when the branches are large record updates. -/
theorem ite_elim {α : Sort u} (P : α → Prop) {c : Prop} [Decidable c] {a b : α}
    (ha : c → P a) (hb : ¬c → P b) : P (if c then a else b) := by
  by_cases h : c
  · rw [if_pos h]; exact ha h
  · rw [if_neg h]; exact hb h

theorem ite_both {α : Sort u} {P : α → Prop} {c : Prop} [Decidable c] {a b : α}
    (ha : P a) (hb : P b) : P (if c then a else b) :=
  ite_elim P (fun _ => ha) (fun _ => hb)

theorem ite_cases {α : Sort u} {c : Prop} [Decidable c] {a b x : α} (h : (if c then a else b) = x) :
    (c ∧ a = x) ∨ (¬c ∧ b = x) :=
  ite_elim (fun y => y = x → (c ∧ a = x) ∨ (¬c ∧ b = x)) (fun hc e => .inl ⟨hc, e⟩) (fun hc e => .inr ⟨hc, e⟩) h

theorem ite_cases_ne {α : Sort u} {c : Prop} [Decidable c] {a b x : α} (h : (if c then a else b) = x) (hne : a ≠ x) :
    ¬c ∧ b = x :=
  (ite_cases h).elim (fun ⟨_, e⟩ => absurd e hne) id

theorem foldl_inv {α β : Type} (P : β → Prop) (f : β → α → β) (l : List α) :
    ∀ b, (∀ b, ∀ a ∈ l, P b → P (f b a)) → P b → P (l.foldl f b) := by
  induction l with
  | nil => intro b _ h; exact h
  | cons a t ih =>
    intro b hf h
    exact ih _ (fun b x hx => hf b x (List.mem_cons_of_mem _ hx)) (hf b a List.mem_cons_self h)

end Aio
