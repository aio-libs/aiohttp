import AioModel.Utf8
/-! An ASCII byte in a UTF-8 encoding comes from that very code point (so no supplied string
can smuggle a CR or LF through `str.encode`); the encoding of a concatenation. -/
namespace Aio

theorem toUInt8_high {m : Nat} (h1 : 0x80 ≤ m) (h2 : m < 256) {b : UInt8} (hb : b = m.toUInt8) :
    ¬ b.toNat < 0x80 := by
  subst hb; simp; omega

theorem utf8enc_low (c : Nat) (bs : Bytes) (h : utf8enc c = some bs) (b : UInt8)
    (hb : b ∈ bs) (hlow : b.toNat < 0x80) : c < 0x80 ∧ bs = [c.toUInt8] := by
  revert h
  fun_cases utf8enc c <;> intro h <;> cases h
  · exact ⟨‹_›, rfl⟩
  all_goals
    exfalso
    simp only [List.mem_cons, List.not_mem_nil, or_false] at hb
  · rcases hb with hb | hb <;> exact toUInt8_high (by omega) (by omega) hb hlow
  · rcases hb with hb | hb | hb <;> exact toUInt8_high (by omega) (by omega) hb hlow
  · rcases hb with hb | hb | hb | hb <;> exact toUInt8_high (by omega) (by omega) hb hlow

/-- A byte `< 0x80` occurs in the UTF-8 encoding of `cs` only if the code point with that
value occurs in `cs`. -/
theorem utf8_low_byte (cs : Str) (bs : Bytes) (h : utf8 cs = some bs) (b : UInt8)
    (hb : b ∈ bs) (hlow : b.toNat < 0x80) : b.toNat ∈ cs := by
  fun_induction utf8 cs generalizing bs with
  | case1 => cases h; simp at hb
  | case2 c cs a r hr ha ih =>
    cases h
    rcases List.mem_append.mp hb with hb | hb
    · have ⟨hc, hac⟩ := utf8enc_low c a ha b hb hlow
      subst hac
      simp at hb; subst hb
      have : (c.toUInt8).toNat = c := by simp; omega
      simp [this]
    · exact List.mem_cons_of_mem _ (ih r hr hb)
  | case3 => cases h

theorem utf8_not_mem (cs : Str) (bs : Bytes) (h : utf8 cs = some bs) (b : UInt8)
    (hlow : b.toNat < 0x80) (hb : b.toNat ∉ cs) : b ∉ bs :=
  fun hm => hb (utf8_low_byte cs bs h b hm hlow)

theorem utf8_append (a b : Str) :
    utf8 (a ++ b) = match utf8 a, utf8 b with
      | some x, some y => some (x ++ y)
      | _, _ => none := by
  induction a with
  | nil => simp [utf8]; cases utf8 b <;> rfl
  | cons c cs ih =>
    simp only [List.cons_append, utf8, ih]
    cases utf8enc c <;> cases utf8 cs <;> cases utf8 b <;> simp

theorem utf8_append_some (a b : Str) (bs : Bytes) (h : utf8 (a ++ b) = some bs) :
    ∃ x y, utf8 a = some x ∧ utf8 b = some y ∧ bs = x ++ y := by
  rw [utf8_append] at h
  cases ha : utf8 a <;> cases hb : utf8 b <;> simp [ha, hb] at h
  exact ⟨_, _, rfl, rfl, h.symm⟩

theorem utf8_crlf : utf8 [13, 10] = some [13, 10] := by decide

end Aio
