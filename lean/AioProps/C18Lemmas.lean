import AioModel.C18
import AioProps.Basics
/-! # C18 — the resource invariant of the exchange model, kept by every transition

The invariant ties what the request claims (pool slot, parked writer, DNS future, place in the
pool queue, open transport) to the phase it is in.  Most transitions only give claims up
(`Core.Le`); the few that move between phases are lemmas about `InvC` on a variable core,
instantiated by unfolding `core` on the updated state. -/
namespace Aio.C18
open Aio

/-- the part of the state the resource invariant talks about -/
structure Core where
  slot : Slot
  pc : Pc
  rel : Bool
  wr : Wr
  dnsWaitR : Bool
  poolQ : List Who
  tr : Tr
  pooled : Bool
  eof : Bool

def core (s : St) : Core :=
  ⟨s.slot, s.pc, s.respReleased, s.wr, s.dnsWaitR, s.poolQ, s.tr, s.pooled, s.eof⟩

def activePc (p : Pc) : Prop := p = .headers ∨ p = .think ∨ p = .body

structure InvC (c : Core) : Prop where
  /-- a placeholder slot is held only while resolving or connecting -/
  p1 : c.slot = .placeholder → (c.pc = .dnsOwner ∨ c.pc = .dnsWaiter ∨ c.pc = .connecting)
  /-- the slot holds a connection only while the response is being received and has not released it -/
  p2 : c.slot = .proto → activePc c.pc ∧ c.rel = false
  /-- a parked writer belongs to a request that holds its connection -/
  p3 : c.wr = .parked → c.slot = .proto
  /-- the request waits on another's DNS lookup only in `dnsWaiter` -/
  p4 : c.dnsWaitR = true → c.pc = .dnsWaiter
  /-- the request stands in the pool queue only in `poolWait` -/
  p5 : Who.R ∈ c.poolQ → c.pc = .poolWait
  /-- an open transport is the request's own connection, or one the response gave back to the pool after a
  complete message -/
  p6 : c.tr = .open → (c.slot = .proto ∨ (c.pooled = true ∧ c.eof = true ∧ c.rel = true))
  /-- the response releases its connection only while it is being received; the flag outlives the request -/
  p7 : c.rel = true → (activePc c.pc ∨ c.pc.isDone = true)

/-- resource invariant -/
def Inv (s : St) : Prop := InvC (core s)

theorem Inv.of_core {s s' : St} (h : core s' = core s) (hi : Inv s) : Inv s' := by
  unfold Inv; rw [h]; exact hi

theorem activePc.of_core {s s' : St} (h : core s' = core s) (ha : activePc s.pc) : activePc s'.pc :=
  (congrArg (fun c => activePc c.pc) h).mpr ha

theorem activePc_iff (p : Pc) : activePc p ↔ p.active = true := by
  cases p <;> simp [activePc, Pc.active]

theorem not_activePc {p : Pc} (ha : p.active = false) : ¬ activePc p :=
  fun x => by rw [activePc_iff, ha] at x; cases x

theorem not_connPhase {p : Pc} (h : activePc p ∨ p.isDone = true) :
    p ≠ .poolWait ∧ p ≠ .dnsOwner ∧ p ≠ .dnsWaiter ∧ p ≠ .connecting := by
  cases p <;> simp [activePc, Pc.isDone] at h ⊢

/-- `c'` differs from `c` only by claims given up — a placeholder slot, the parked writer, the DNS
future, the place in the pool queue, the open transport — and by `eof` having become true.
Each clause holds by default when its field is unchanged, so an instance names only what changes. -/
structure Core.Le (c' c : Core) : Prop where
  slot : c'.slot = c.slot ∨ (c'.slot = .none ∧ c.slot ≠ .proto) := by exact .inl rfl
  pc : c'.pc = c.pc := by rfl
  rel : c'.rel = c.rel := by rfl
  wr : c'.wr = .parked → c.wr = .parked := by exact id
  dns : c'.dnsWaitR = true → c.dnsWaitR = true := by exact id
  pool : Who.R ∈ c'.poolQ → Who.R ∈ c.poolQ := by exact id
  tr : c'.tr = .open → c.tr = .open := by exact id
  pooled : c'.pooled = c.pooled := by rfl
  eof : c.eof = true → c'.eof = true := by exact id

theorem Core.Le.refl (c : Core) : c.Le c := {}

/-- No slot, DNS future or queue place.  Under `InvC` this leaves no parked writer either (`p3`) and no open
transport but a pooled one (`p6`), so these three say that the request holds nothing. -/
structure Clean (c : Core) : Prop where
  slot : c.slot = .none
  dns : c.dnsWaitR = false
  pool : Who.R ∉ c.poolQ

theorem Clean.mono {c c' : Core} (h : Clean c) (l : c'.Le c) : Clean c' :=
  ⟨l.slot.elim (fun y => y.trans h.slot) (·.1),
   Bool.eq_false_iff.2 fun x => (by have := l.dns x; rw [h.dns] at this; cases this),
   fun x => h.pool (l.pool x)⟩

namespace InvC
variable {c c' : Core} (h : InvC c)
include h

/-! The side conditions on `p` are decided when `p` is a constructor. -/
variable {p : Pc} (hp : c.pc = p)
include hp

theorem slot_ne_proto (ha : p.active = false := by rfl) : c.slot ≠ .proto :=
  fun x => not_activePc ha (hp ▸ (h.p2 x).1)

theorem rel_false (ha : p.active = false := by rfl) (hd : p.isDone = false := by rfl) : c.rel = false :=
  Bool.eq_false_iff.2 fun x => (h.p7 x).elim (fun y => not_activePc ha (hp ▸ y)) fun y => by
    rw [hp, hd] at y; cases y

theorem dns_false (hn : p ≠ .dnsWaiter := by decide) : c.dnsWaitR = false :=
  Bool.eq_false_iff.2 fun x => hn (hp.symm.trans (h.p4 x))

theorem not_queued (hn : p ≠ .poolWait := by decide) : Who.R ∉ c.poolQ :=
  fun x => hn (hp.symm.trans (h.p5 x))

theorem slot_none (hs : c.slot ≠ .proto) (n2 : p ≠ .dnsOwner := by decide) (n3 : p ≠ .dnsWaiter := by decide)
    (n4 : p ≠ .connecting := by decide) : c.slot = .none := by
  cases e : c.slot with
  | none => rfl
  | placeholder => rcases hp ▸ h.p1 e with x | x | x <;> contradiction
  | proto => exact absurd e hs

omit hp

theorem mono (l : c'.Le c) : InvC c' where
  p1 x := l.pc ▸ h.p1 (l.slot.elim (fun y => y ▸ x) fun y => by rw [y.1] at x; cases x)
  p2 x := l.pc ▸ l.rel ▸ h.p2 (l.slot.elim (fun y => y ▸ x) fun y => by rw [y.1] at x; cases x)
  p3 x := l.slot.elim (fun y => y ▸ h.p3 (l.wr x)) fun y => absurd (h.p3 (l.wr x)) y.2
  p4 x := l.pc ▸ h.p4 (l.dns x)
  p5 x := l.pc ▸ h.p5 (l.pool x)
  p6 x := by
    rw [l.rel, l.pooled]
    exact (h.p6 (l.tr x)).elim (fun y => l.slot.elim (fun z => .inl (z ▸ y)) fun z => absurd y z.2)
      fun y => .inr ⟨y.1, l.eof y.2.1, y.2.2⟩
  p7 := l.pc ▸ l.rel ▸ h.p7

theorem clean (hp : activePc c.pc ∨ c.pc.isDone = true) (hs : c.slot ≠ .proto) : Clean c :=
  have ⟨n1, n2, n3, n4⟩ := not_connPhase hp
  ⟨h.slot_none rfl hs n2 n3 n4, h.dns_false rfl n3, h.not_queued rfl n1⟩

theorem clean_of_rel (hr : c.rel = true) : Clean c :=
  h.clean (h.p7 hr) fun x => by have := (h.p2 x).2; rw [hr] at this; cases this

theorem clean_of_done (hd : c.pc.isDone = true) : Clean c :=
  h.clean (.inr hd) fun x => by
    rcases (h.p2 x).1 with y | y | y <;> rw [y] at hd <;> cases hd

theorem done (hc : Clean c) (o : Outcome) (t : Nat) : InvC { c with pc := .done o t } where
  p1 x := by rw [hc.slot] at x; cases x
  p2 x := by rw [hc.slot] at x; cases x
  p3 := h.p3
  p4 x := by rw [hc.dns] at x; cases x
  p5 x := absurd x hc.pool
  p6 := h.p6
  p7 _ := .inr rfl

theorem release (ha : activePc c.pc) {w : Wr} {t : Tr} {po : Bool} (hw : w ≠ .parked)
    (ht : t = .open → po = true ∧ c.eof = true) :
    InvC { c with slot := .none, rel := true, wr := w, tr := t, pooled := po } where
  p1 := nofun
  p2 := nofun
  p3 x := absurd x hw
  p4 := h.p4
  p5 := h.p5
  p6 x := .inr ⟨(ht x).1, (ht x).2, rfl⟩
  p7 _ := .inl ha

theorem rearm (hs : c.slot ≠ .proto) (hr : c.rel = false) {sl : Slot} {p : Pc} {d : Bool} {q : List Who}
    (hs' : sl ≠ .proto) (h1 : sl = .placeholder → p = .dnsOwner ∨ p = .dnsWaiter ∨ p = .connecting)
    (h4 : d = true → p = .dnsWaiter) (h5 : Who.R ∈ q → p = .poolWait) :
    InvC { c with slot := sl, pc := p, dnsWaitR := d, poolQ := q } where
  p1 := h1
  p2 x := absurd x hs'
  p3 x := absurd (h.p3 x) hs
  p4 := h4
  p5 := h5
  p6 x := (h.p6 x).elim (fun y => absurd y hs) .inr
  p7 x := by rw [hr] at x; cases x

theorem setActive (ha : activePc c.pc) {p : Pc} (hp : activePc p) : InvC { c with pc := p } := by
  obtain ⟨n1, n2, n3, n4⟩ := not_connPhase (.inl ha)
  exact {
    p1 := fun x => by rcases h.p1 x with y | y | y <;> contradiction
    p2 := fun x => ⟨hp, (h.p2 x).2⟩
    p3 := h.p3
    p4 := fun x => absurd (h.p4 x) n3
    p5 := fun x => absurd (h.p5 x) n1
    p6 := h.p6
    p7 := fun _ => .inl hp }

end InvC

theorem InvC.connected {c : Core} (hr : c.rel = false) (hd : c.dnsWaitR = false) (hq : Who.R ∉ c.poolQ) {p : Pc}
    (hp : activePc p) (w : Wr) (t : Tr) : InvC { c with slot := .proto, pc := p, wr := w, tr := t } where
  p1 := nofun
  p2 _ := ⟨hp, hr⟩
  p3 _ := rfl
  p4 x := by rw [hd] at x; cases x
  p5 x := absurd x hq
  p6 _ := .inl rfl
  p7 _ := .inl hp

theorem InvC.fresh {w : Wr} {q : List Who} (hw : w ≠ .parked) (hq : Who.R ∉ q) (po e : Bool) :
    InvC ⟨.none, .idle, false, w, false, q, .none, po, e⟩ where
  p1 := nofun
  p2 := nofun
  p3 x := absurd x hw
  p4 := nofun
  p5 x := absurd x hq
  p6 := nofun
  p7 := nofun

/-- the states in which the request may end -/
def Free (s : St) : Prop := Inv s ∧ Clean (core s)

theorem Free.mono {s s' : St} (h : Free s) (l : (core s').Le (core s)) : Free s' :=
  ⟨h.1.mono l, h.2.mono l⟩

theorem Free.of_core {s s' : St} (e : core s' = core s) (h : Free s) : Free s' :=
  h.mono (e ▸ Core.Le.refl _)

theorem free_of_rel {s : St} (h : Inv s) (hr : s.respReleased = true) : Free s := ⟨h, h.clean_of_rel hr⟩

theorem inv_init (b : Bool) (c0 : Nat := 0) : Inv (init b c0) :=
  InvC.fresh (w := .none) (q := []) nofun nofun _ _

def CancelOnly (s s' : St) : Prop := ∃ c m, s' = { s with cancelling := c, mustCancel := m }

theorem CancelOnly.core {s s' : St} (h : CancelOnly s s') : core s' = core s := by
  obtain ⟨c, m, rfl⟩ := h; rfl

theorem uncancel_eq (s : St) : CancelOnly s (uncancel s) := by
  fun_cases uncancel s <;> exact ⟨_, _, rfl⟩

theorem tcExit_eq (s : St) (e : Exc) : CancelOnly s (tcExit s e).1 := by
  fun_cases tcExit s e
  · exact uncancel_eq s
  · exact uncancel_eq s
  · exact ⟨_, _, rfl⟩

theorem ctxExitCore_eq (st : CtxSt) (b : Nat) (s : St) (e : Exc) : CancelOnly s (ctxExitCore st b s e).1 := by
  fun_cases ctxExitCore st b s e
  · exact uncancel_eq s
  · exact uncancel_eq s
  · exact ⟨_, _, rfl⟩

theorem core_tcExit (s : St) (e : Exc) : core (tcExit s e).1 = core s := (tcExit_eq s e).core

@[simp] theorem connExit_core' (s : St) (e : Exc) : core (connExit s e).1 = core s :=
  (ctxExitCore_eq s.connCtx s.connBase s e).core

theorem core_sockExit (s : St) (e : Exc) : core (sockExit s e).1 = core s :=
  (ctxExitCore_eq s.sockCtx s.sockBase s e).core

theorem core_reschedRead (cfg : Cfg) (s : St) : core (reschedRead cfg s) = core s := by
  fun_cases reschedRead cfg s <;> rfl

theorem core_pauseCheck (cfg : Cfg) (s : St) : core (pauseCheck cfg s) = core s := by
  fun_cases pauseCheck cfg s <;> rfl

theorem core_consume (cfg : Cfg) (s : St) : core (consume cfg s) = core s := by
  fun_cases consume cfg s
  · exact core_reschedRead cfg _
  · rfl

theorem core_armStart (cfg : Cfg) (s : St) : core (armStart cfg s) = core s := by
  have total : core (match cfg.effTotal with
      | some d => if d = 0 then s
        else { s with totalT := some (totalDeadline cfg.thr s.now d, s.seq), seq := s.seq + 1 }
      | none => s) = core s := by
    split
    · split <;> rfl
    · rfl
  fun_cases armStart cfg s <;> exact total

theorem armConn_eq (cfg : Cfg) (s : St) : ∃ t q,
    armConn cfg s = { s with connCtx := .entered, connT := t, seq := q, connBase := s.cancelling } := by
  fun_cases armConn cfg s <;> exact ⟨_, _, rfl⟩

theorem core_armConn (cfg : Cfg) (s : St) : core (armConn cfg s) = core s := by
  obtain ⟨t, q, h⟩ := armConn_eq cfg s
  rw [h]; rfl

theorem attemptConn_eq (cfg : Cfg) (s : St) : ∃ t q,
    attemptConn cfg s = { s with sockCtx := .entered, sockT := t, seq := q, sockBase := s.cancelling,
                                 pc := .connecting, wake := none, tls := false } := by
  unfold attemptConn
  split
  · split <;> exact ⟨_, _, rfl⟩
  · exact ⟨_, _, rfl⟩

theorem core_attemptConn (cfg : Cfg) (s : St) :
    core (attemptConn cfg s) = { core s with pc := .connecting } := by
  obtain ⟨t, q, h⟩ := attemptConn_eq cfg s
  rw [h]; rfl

@[simp] theorem pc_attemptConn (cfg : Cfg) (s : St) : (attemptConn cfg s).pc = .connecting := by
  unfold attemptConn; rfl

theorem releaseWaiter_eq (cfg : Cfg) (s : St) : ∃ q w k p,
    releaseWaiter cfg s = { s with poolQ := q, rWoken := w, wake := k, cpc := p } ∧
    (∀ x, x ∈ q → x ∈ s.poolQ) ∧ (p = s.cpc ∨ p = .ok) := by
  fun_cases releaseWaiter cfg s
  case case3 q e => exact ⟨q, _, _, _, rfl, fun _ x => e ▸ .tail _ x, .inl rfl⟩
  case case4 q e _ => exact ⟨q, _, _, _, rfl, fun _ x => e ▸ .tail _ (.tail _ x), .inr rfl⟩
  case case5 q e _ _ => exact ⟨q, _, _, _, rfl, fun _ x => e ▸ .tail _ x, .inr rfl⟩
  all_goals exact ⟨_, _, _, _, rfl, fun _ => id, .inl rfl⟩

theorem le_releaseWaiter (cfg : Cfg) (s : St) : (core (releaseWaiter cfg s)).Le (core s) := by
  obtain ⟨q, w, k, p, e, hq, -⟩ := releaseWaiter_eq cfg s
  rw [e]; exact { pool := hq _ }

theorem pc_releaseWaiter (cfg : Cfg) (s : St) : (releaseWaiter cfg s).pc = s.pc :=
  (le_releaseWaiter cfg s).pc
@[simp] theorem rw_rel (cfg : Cfg) (s : St) : (releaseWaiter cfg s).respReleased = s.respReleased :=
  (le_releaseWaiter cfg s).rel
@[simp] theorem rw_tr (cfg : Cfg) (s : St) : (releaseWaiter cfg s).tr = s.tr := by
  obtain ⟨q, w, k, p, e, -⟩ := releaseWaiter_eq cfg s
  rw [e]

theorem le_taskCancel (s : St) : (core (taskCancel s)).Le (core s) := by
  fun_cases taskCancel s
  · exact .refl _
  · exact { pool := ite_elim (fun q => Who.R ∈ q → Who.R ∈ s.poolQ) (fun _ x => (List.mem_filter.1 x).1) fun _ => id }

@[simp] theorem pc_taskCancel (s : St) : (taskCancel s).pc = s.pc := (le_taskCancel s).pc

theorem unpark_ne (w : Wr) : (if w = .parked then Wr.cancelled else w) ≠ .parked := by
  split
  · nofun
  · assumption

theorem shut_ne (t : Tr) : (if t = .open then Tr.closed else t) ≠ .open := by
  split
  · nofun
  · assumption

@[simp] theorem pc_closeConn' (cfg : Cfg) (s : St) : (closeConn cfg s).pc = s.pc := by
  fun_cases closeConn cfg s
  · rfl
  · exact pc_releaseWaiter cfg _

theorem free_closeConn (cfg : Cfg) (s : St) (h : Inv s) (ha : activePc s.pc ∨ s.respReleased = true) :
    Free (closeConn cfg s) := by
  fun_cases closeConn cfg s
  · exact free_of_rel h ‹_›
  · refine Free.mono (free_of_rel ?_ rfl) (le_releaseWaiter cfg _)
    exact InvC.release h (ha.resolve_right ‹_›) (unpark_ne _) fun x => absurd x (shut_ne _)

theorem pc_releaseConn (cfg : Cfg) (s : St) : (releaseConn cfg s).pc = s.pc := by
  fun_cases releaseConn cfg s
  · rfl
  · exact pc_closeConn' cfg s
  · exact pc_releaseWaiter cfg _

theorem free_releaseConn (cfg : Cfg) (s : St) (h : Inv s) (ha : activePc s.pc ∨ s.respReleased = true) :
    Free (releaseConn cfg s) := by
  fun_cases releaseConn cfg s
  · exact free_of_rel h ‹_›
  · exact free_closeConn cfg s h ha
  · rename_i hr hc _
    -- the connection goes back to the pool: the writer is not parked and the message is complete
    have he : s.eof = true := by
      cases e : s.eof
      · exact absurd (.inr (.inr (.inl (by rw [e]; rfl)))) hc
      · rfl
    refine Free.mono (free_of_rel ?_ rfl) (le_releaseWaiter cfg _)
    exact InvC.release h (ha.resolve_right hr) (fun x => hc (.inl x)) fun _ => ⟨rfl, he⟩

theorem inv_releaseConn_or (cfg : Cfg) (s : St) (h : Inv s) (ha : activePc s.pc ∨ s.respReleased = true) :
    Inv (releaseConn cfg s) :=
  (free_releaseConn cfg s h ha).1

theorem free_releasePlaceholder (cfg : Cfg) (s : St) (h : Inv s) {p : Pc} (hp : s.pc = p)
    (hd : s.dnsWaitR = false) (ha : p.active = false := by rfl) (hn : p ≠ .poolWait := by decide) :
    Free (releasePlaceholder cfg s) :=
  Free.mono (s := { s with slot := .none })
    ⟨h.mono { slot := .inr ⟨rfl, h.slot_ne_proto hp ha⟩ }, rfl, hd, h.not_queued hp hn⟩
    (le_releaseWaiter cfg _)

theorem inv_finish (s : St) (o : Outcome) (h : Free s) : Inv (finish s o) := InvC.done h.1 h.2 o s.now

theorem inv_connPhaseExit (s : St) (e : Exc) (h : Free s) : Inv (connPhaseExit s e) := by
  unfold connPhaseExit
  exact inv_finish _ _ (h.of_core (by rw [core_tcExit, connExit_core']))

theorem inv_attemptConn (cfg : Cfg) (s : St) (h : Inv s) {p : Pc} (hp : s.pc = p) (h4 : s.dnsWaitR = false)
    (ha : p.active = false := by rfl) (hd : p.isDone = false := by rfl)
    (hn : p ≠ .poolWait := by decide) : Inv (attemptConn cfg s) := by
  unfold Inv; rw [core_attemptConn]
  exact InvC.rearm h (h.slot_ne_proto hp ha) (h.rel_false hp ha hd) (h.slot_ne_proto hp ha)
    (fun _ => .inr (.inr rfl)) (fun x => nomatch h4.symm.trans x) fun x => absurd x (h.not_queued hp hn)

theorem not_mem_filterR (q : List Who) : Who.R ∉ q.filter (· ≠ .R) :=
  fun x => by simpa using (List.mem_filter.1 x).2

theorem le_filterR (s : St) : (core { s with poolQ := s.poolQ.filter (· ≠ .R) }).Le (core s) :=
  { pool := fun x => (List.mem_filter.1 x).1 }

theorem le_dnsOff (s : St) : (core { s with dnsWaitR := false }).Le (core s) :=
  { dns := nofun }

theorem inv_createConn (cfg : Cfg) (s : St) (h : Inv s) {p : Pc} (hp : s.pc = p) (h5 : Who.R ∉ s.poolQ)
    (ha : p.active = false := by rfl) (hd : p.isDone = false := by rfl) (hw : p ≠ .dnsWaiter := by decide) :
    Inv (createConn cfg s) := by
  have h4 := h.dns_false hp hw
  -- every branch takes the placeholder and moves to a connect phase
  have key (p : Pc) (d : Bool) (h1 : p = .dnsOwner ∨ p = .dnsWaiter ∨ p = .connecting)
      (h4 : d = true → p = .dnsWaiter) :
      InvC { core s with slot := .placeholder, pc := p, dnsWaitR := d } :=
    InvC.rearm h (h.slot_ne_proto hp ha) (h.rel_false hp ha hd) nofun (fun _ => h1) h4 fun x => absurd x h5
  have conn (s' : St) (e : core s' = { core s with slot := .placeholder }) : Inv (attemptConn cfg s') := by
    unfold Inv; rw [core_attemptConn, e]
    exact key .connecting _ (.inr (.inr rfl)) fun x => nomatch h4.symm.trans x
  fun_cases createConn cfg s
  · exact conn _ rfl
  · exact conn _ rfl
  · exact key .dnsWaiter true (.inr (.inl rfl)) fun _ => rfl
  · exact key .dnsOwner _ (.inl rfl) fun x => nomatch h4.symm.trans x

/-- the common tail of `startR` and `redirectStep` -/
theorem inv_acquire (cfg : Cfg) (s : St) (h : Inv s) (hp : s.pc = .idle) :
    Inv (if (!slotFree cfg s) = true then { s with pc := .poolWait, poolQ := s.poolQ ++ [.R], wake := none }
         else createConn cfg s) := by
  have hs := h.slot_ne_proto hp
  refine ite_elim Inv (fun _ => ?_) fun _ => inv_createConn cfg s h hp (h.not_queued hp)
  exact InvC.rearm h hs (h.rel_false hp) hs (fun x => nomatch (h.slot_none hp hs).symm.trans x)
    (fun x => nomatch (h.dns_false hp).symm.trans x) fun _ => rfl

theorem inv_startR (cfg : Cfg) (s : St) (h : Inv s) : Inv (startR cfg s) := by
  unfold startR; split
  · exact h
  · rename_i hp
    exact inv_acquire cfg _ (Inv.of_core (core_armStart cfg s) h)
      ((congrArg Core.pc (core_armStart cfg s)).trans (Decidable.not_not.1 hp))

theorem inv_redirectStep (cfg : Cfg) (s : St) : Inv (redirectStep cfg s) := by
  have h0 : Inv (resetHop s) := InvC.fresh (unpark_ne _) (not_mem_filterR _) _ _
  unfold redirectStep
  exact inv_acquire cfg _ (Inv.of_core (core_armConn cfg _) (h0.mono (le_releaseWaiter cfg _)))
    ((congrArg Core.pc (core_armConn cfg _)).trans (pc_releaseWaiter cfg _))

theorem inv_throwAt (cfg : Cfg) (s : St) (e : Exc) (h : Inv s) : Inv (throwAt cfg s e) := by
  have dns {p : Pc} (hp : s.pc = p) (ha : p.active = false := by rfl) (hn : p ≠ .poolWait := by decide) :
      Inv (connPhaseExit (releasePlaceholder cfg { s with dnsWaitR := false }) e) :=
    inv_connPhaseExit _ e (free_releasePlaceholder cfg _ (h.mono (le_dnsOff s)) hp rfl ha hn)
  have act (ha : activePc s.pc) : Free (closeConn cfg (tcExit s e).1) :=
    free_closeConn cfg _ (Inv.of_core (core_tcExit s e) h) (.inl (ha.of_core (core_tcExit s e)))
  have hc := core_sockExit { s with closedSocks := s.closedSocks + 1 } e
  have hi := Inv.of_core hc h
  have conn (hp : s.pc = .connecting) := (congrArg Core.pc hc).trans hp
  -- one case per branch of `throwAt`, numbered in its order (a new branch renumbers them); 4 and 5: connecting,
  -- with and without a further address
  fun_cases throwAt cfg s e
  case case1 =>
    have hp : s.pc = .poolWait := ‹_›
    have hf : Free { s with poolQ := s.poolQ.filter (· ≠ .R) } :=
      ⟨h.mono (le_filterR s), h.slot_none hp (h.slot_ne_proto hp), h.dns_false hp, not_mem_filterR _⟩
    exact inv_connPhaseExit _ e (ite_elim Free (fun _ => hf.mono (le_releaseWaiter cfg _)) fun _ => hf)
  case case2 => exact dns ‹s.pc = .dnsOwner›
  case case3 => exact dns ‹s.pc = .dnsWaiter›
  case case4 => exact inv_attemptConn cfg _ hi (conn ‹_›) (hi.dns_false (conn ‹_›))
  case case5 => exact inv_connPhaseExit _ _ (free_releasePlaceholder cfg _ hi (conn ‹_›) (hi.dns_false (conn ‹_›)))
  case case6 => exact inv_finish _ _ ((act (.inl ‹_›)).of_core (core_tcExit _ _))
  case case7 => exact inv_finish _ _ (act (.inr (.inr ‹_›)))
  case case8 => exact inv_finish _ _ (free_releaseConn cfg s h (.inl (.inr (.inl ‹_›))))
  case case9 => exact h

/-- resuming with what `readBody` / `afterHeaders` return keeps the invariant: `resumeR` continues in the
returned state or, if an error is returned with it, raises the error at the `body` await -/
def Resumable (cfg : Cfg) (r : St × Option Exc) : Prop :=
  Inv (match r with
    | (s, none) => s
    | (s, some e) => throwAt cfg { s with pc := .body } e)

theorem inv_readBody (cfg : Cfg) (s : St) (h : Inv s) (ha : activePc s.pc) : Resumable cfg (readBody cfg s) := by
  have err (e : Exc) : Resumable cfg (s, some e) := inv_throwAt cfg _ e (InvC.setActive h ha (.inr (.inr rfl)))
  have h1 := ite_elim (fun x : St => Inv x ∧ activePc x.pc) (c := s.buffered > 0) (a := consume cfg s)
    (fun _ => ⟨Inv.of_core (core_consume cfg s) h, ha.of_core (core_consume cfg s)⟩) fun _ => ⟨h, ha⟩
  fun_cases readBody cfg s
  · exact err _
  · exact err _
  · exact inv_finish _ _ (free_releaseConn cfg _ h1.1 (.inl h1.2))
  · exact InvC.setActive h1.1 h1.2 (.inr (.inr rfl))

theorem inv_afterHeaders (cfg : Cfg) (s : St) (h : Inv s) (ha : activePc s.pc) :
    Resumable cfg (afterHeaders cfg s) := by
  have h1 := ite_elim (fun x : St => Inv x ∧ activePc x.pc) (c := s.eof = true)
    (a := releaseConn cfg { s with hdrAt := some s.now }) (b := { s with hdrAt := some s.now })
    (fun _ => ⟨inv_releaseConn_or cfg _ h (.inl ha), by rw [pc_releaseConn]; exact ha⟩) fun _ => ⟨h, ha⟩
  fun_cases afterHeaders cfg s
  · exact InvC.setActive h1.1 h1.2 (.inr (.inl rfl))
  · exact inv_readBody cfg _ h1.1 h1.2

theorem inv_afterConnect (cfg : Cfg) (s : St) (h : Inv s) (hp : s.pc = .connecting) :
    Inv (afterConnect cfg s) := by
  -- the one case names the intermediate states: `s2` outside both timeout contexts, `s4` after the writer's step
  fun_cases afterConnect cfg s
  rename_i s1 s2 _ s4
  have hc : core s2 = core s := (connExit_core' s1 _).trans (core_sockExit s _)
  -- whatever the writer does, the request takes the slot on an open transport and awaits the headers
  let P (x : St) : Prop := ∃ w, core x = { core s2 with slot := .proto, wr := w, tr := .open }
  have ⟨w, e⟩ : P s4 :=
    ite_elim P (fun _ => ⟨.parked, rfl⟩) fun _ => ite_elim P (fun _ => ⟨.parked, rfl⟩)
      fun _ => ⟨s2.wr, core_reschedRead cfg _⟩
  show InvC { core s4 with pc := .headers }
  rw [e, hc]
  exact InvC.connected (h.rel_false hp) (h.dns_false hp) (h.not_queued hp) (.inl rfl) w .open

theorem inv_resumeR (cfg : Cfg) (s : St) (h : Inv s) : Inv (resumeR cfg s) := by
  have dns {p : Pc} (hp : s.pc = p) (ha : p.active = false := by rfl) (hd : p.isDone = false := by rfl)
      (hn : p ≠ .poolWait := by decide) :
      Inv (attemptConn cfg { s with wake := none, dnsWaitR := false, addrsLeft := cfg.naddr, attempt := 0 }) :=
    inv_attemptConn cfg _ (h.mono (le_dnsOff s)) hp rfl ha hd hn
  have hh (hp : s.pc = .headers) := inv_afterHeaders cfg { s with wake := none } h (.inl hp)
  have ht (hp : s.pc = .think) := inv_readBody cfg { s with wake := none, thinkT := none } h (.inr (.inl hp))
  have hb (hp : s.pc = .body) := inv_readBody cfg { s with wake := none } h (.inr (.inr hp))
  -- one case per branch of `resumeR`, numbered in its order (a new branch renumbers them); 11–16: `afterHeaders`,
  -- `readBody` after the think time and `readBody` in `body`, each returning without and with an error; the
  -- branches not named (1, 3, 8, 17) change nothing the invariant reads
  fun_cases resumeR cfg s
  case case2 => exact inv_throwAt cfg _ _ h
  case case4 => exact inv_throwAt cfg _ _ h
  case case5 => exact inv_createConn cfg _ (h.mono (le_filterR s)) ‹s.pc = .poolWait› (not_mem_filterR _)
  case case6 => exact dns ‹s.pc = .dnsOwner›
  case case7 => exact dns ‹s.pc = .dnsWaiter›
  case case9 => exact inv_afterConnect cfg _ h ‹_›
  case case10 => exact inv_redirectStep cfg _
  case case11 r => exact (r ▸ hh ‹_› : Resumable cfg (_, none))
  case case12 r => exact (r ▸ hh ‹_› : Resumable cfg (_, some _))
  case case13 r => exact (r ▸ ht ‹_› : Resumable cfg (_, none))
  case case14 r => exact (r ▸ ht ‹_› : Resumable cfg (_, some _))
  case case15 r => exact (r ▸ hb ‹_› : Resumable cfg (_, none))
  case case16 r => exact (r ▸ hb ‹_› : Resumable cfg (_, some _))
  all_goals exact h

theorem core_setWake (c : Prop) [Decidable c] (s : St) (w : Option Wake) :
    core (if c then { s with wake := w } else s) = core s := by
  split <;> rfl

theorem le_interimStep (cfg : Cfg) (s : St) : (core (interimStep cfg s)).Le (core s) := by
  unfold interimStep
  have e : core (if (Gen.C18.interimKeepsTimerWhenSent && s.reqSent) = true then s else dropRead s) = core s :=
    ite_elim (core · = core s) (fun _ => rfl) fun _ => rfl
  generalize (if (Gen.C18.interimKeepsTimerWhenSent && s.reqSent) = true then s else dropRead s) = s1 at e ⊢
  rw [← e]
  refine ite_elim (fun x => (core x).Le (core s1)) (fun _ => ite_elim (fun x => (core x).Le (core s1)) (fun _ => .refl _) fun _ => ?_)
    fun _ => .refl _
  rw [core_reschedRead]
  exact { wr := nofun }

/-- the step of `deliverCore` that takes the body bytes of a piece, with and without a completed head -/
theorem le_takeBytes (cfg : Cfg) (s : St) (hd b : Bool) (n : Nat) :
    (core (if b = true then dropRead { s with headDone := hd, buffered := n, eof := s.eof || b }
           else pauseCheck cfg { s with headDone := hd, buffered := n, eof := s.eof || b })).Le (core s) := by
  have l : (core { s with headDone := hd, buffered := n, eof := s.eof || b }).Le (core s) :=
    { eof := fun x => Bool.or_eq_true_iff.2 (.inl x) }
  split
  · exact l
  · rw [core_pauseCheck]; exact l

theorem inv_deliverCore (cfg : Cfg) (s : St) (p : Piece) (h : Inv s) : Inv (deliverCore cfg s p) := by
  unfold deliverCore
  refine ite_elim Inv (fun _ => h) fun ho => ite_elim Inv (fun _ => h) fun _ => ?_
  have e1 : core (if p.n > 0 then reschedRead cfg s else s) = core s :=
    ite_elim (core · = core s) (fun _ => core_reschedRead cfg s) fun _ => rfl
  generalize (if p.n > 0 then reschedRead cfg s else s) = s1 at e1 ⊢
  have h1 : Inv s1 := Inv.of_core e1 h
  refine ite_elim Inv (fun _ => ?_) fun _ => ?_
  · refine ite_elim Inv (fun _ => ite_elim Inv (fun _ => h1.mono (le_interimStep cfg s1)) fun _ => h1) fun _ => ?_
    exact Inv.of_core (core_setWake _ _ _) (h1.mono (le_takeBytes cfg s1 _ _ _))
  · -- the transport is open, so the response still owns the connection or has released it
    have ho1 : s1.tr = .open := (congrArg Core.tr e1).trans (Decidable.not_not.1 ho)
    have l := le_takeBytes cfg s1 s1.headDone p.eof (s1.buffered + p.bodyBytes)
    exact Inv.of_core (core_setWake _ _ _) (ite_elim Inv
      (fun _ => inv_releaseConn_or cfg _ (h1.mono l) ((h1.p6 ho1).imp
        (fun x => (congrArg activePc l.pc).mpr (h1.p2 x).1) fun x => l.rel.trans x.2.2))
      fun _ => h1.mono l)

theorem inv_deliver (cfg : Cfg) (s : St) (p : Piece) (h : Inv s) : Inv (deliver cfg s p) := by
  have h' := inv_deliverCore cfg s p h
  unfold deliver
  generalize deliverCore cfg s p = s' at h' ⊢
  exact ite_elim Inv (fun _ => h') fun _ => h'

theorem inv_flushQueued (cfg : Cfg) (n : Nat) (s : St) (h : Inv s) : Inv (flushQueued cfg n s) := by
  fun_induction flushQueued cfg n s with
  | case4 => rename_i ih; exact ih (inv_deliver cfg _ _ h)
  | _ => exact h

theorem inv_lostStep (cfg : Cfg) (s : St) (h : Inv s) : Inv (lostStep cfg s) := by
  have h1 : Inv (peerClosed cfg s) :=
    h.mono { eof := fun x => Bool.or_eq_true_iff.2 (.inl x) }
  unfold lostStep
  refine ite_elim Inv (fun _ => h) fun _ => Inv.of_core (core_setWake _ _ _) (ite_elim Inv (fun hc => ?_) fun _ => h1)
  exact inv_releaseConn_or cfg _ h1 (.inl ((activePc_iff _).2 hc.2.2))

theorem inv_applyEv (cfg : Cfg) (s : St) (ev : Ev) (h : Inv s) : Inv (applyEv cfg s ev) := by
  cases ev with
  | startH => exact h
  | startR => exact inv_startR cfg s h
  | startC =>
    refine ite_elim Inv (fun _ => h) fun _ => ite_elim Inv (fun _ => ite_elim Inv (fun _ => ?_) fun _ => h)
      fun _ => ite_elim Inv (fun _ => h) fun _ => ?_
    · exact h.mono { pool := fun x => (List.mem_append.1 x).elim id fun y => nomatch List.mem_singleton.1 y }
    · split <;> exact h
  | holderRelease => exact ite_elim Inv (fun _ => h) fun _ => h
  | dnsAnswer =>
    show Inv (match s.lookup with | .none => _ | .running _ => _)
    split
    · exact h
    · exact Inv.of_core (core_setWake _ _ _) (ite_elim Inv (fun _ => h) fun _ => h)
  | connDone i => exact Inv.of_core (core_setWake _ _ _) h
  | tlsDone i => exact Inv.of_core (core_setWake _ _ _) h
  | writeResume =>
    exact ite_elim Inv
      (fun _ => Inv.of_core (core_reschedRead cfg _) (h.mono { wr := nofun }))
      fun _ => h
  | bytes p => exact inv_deliver cfg s p h
  | peerEof => exact ite_elim Inv (fun _ => h) fun _ => h.mono { tr := nofun }
  | cancel => exact h.mono (le_taskCancel s)
  | cancelLate => exact h

theorem inv_fireTimer (cfg : Cfg) (s : St) (k : TK) (h : Inv s) : Inv (fireTimer cfg s k) := by
  cases k with
  | total =>
    refine ite_elim Inv (fun _ => h) fun _ => ?_
    exact ite_elim (fun x : St => Inv { x with tcCancelled := true })
      (fun _ => h.mono (le_taskCancel { s with totalT := none })) fun _ => h
  | conn => exact h.mono (le_taskCancel s)
  | sock => exact h.mono (le_taskCancel s)
  | read => exact Inv.of_core (core_setWake _ _ _) h
  | think => exact Inv.of_core (core_setWake _ _ _) h

theorem inv_fireDue (cfg : Cfg) (t n : Nat) (s : St) (h : Inv s) : Inv (fireDue cfg t n s) := by
  fun_induction fireDue cfg t n s with
  | case2 => rename_i ih; exact ih (inv_fireTimer cfg _ _ h)
  | _ => exact h

theorem inv_settle (cfg : Cfg) (n : Nat) (s : St) (h : Inv s) : Inv (settle cfg n s) := by
  have round (s : St) (h : Inv s) : Inv (flushQueued cfg 8 (resumeR cfg (applyDeferred s))) :=
    inv_flushQueued cfg 8 _ (inv_resumeR cfg _ (by
      unfold applyDeferred; exact ite_elim Inv (fun _ => h) fun _ => h))
  fun_induction settle cfg n s with
  | case1 => exact h
  | case2 => rename_i ih; exact ih (round _ h)
  | case3 => exact round _ h

theorem inv_advance (cfg : Cfg) (t n : Nat) (s : St) (h : Inv s) : Inv (advance cfg t n s) := by
  fun_induction advance cfg t n s with
  | case2 => rename_i ih; exact ih (inv_settle cfg _ _ (inv_fireDue cfg _ _ _ h))
  | _ => exact h

theorem inv_holderStep (cfg : Cfg) (s : St) (h : Inv s) : Inv (holderStep cfg s) := by
  fun_cases holderStep cfg s
  · exact h.mono (le_releaseWaiter cfg _)
  · exact h

theorem inv_instant (cfg : Cfg) (s : St) (t : Nat) (evs : List Ev) (h : Inv s) : Inv (instant cfg s t evs) := by
  have late (s' : St) (h' : Inv s') : Inv (if evs.any isLate = true then taskCancel s' else s') :=
    ite_elim Inv (fun _ => h'.mono (le_taskCancel s')) fun _ => h'
  have h1 := inv_advance cfg t 64 s h
  unfold instant
  generalize advance cfg t 64 s = s1 at h1 ⊢
  exact inv_settle cfg 8 _ (late _ (inv_lostStep cfg _ (inv_holderStep cfg _ (inv_fireDue cfg _ 8 _
    (foldl_inv Inv _ evs _ (fun s e _ => inv_applyEv cfg s e) h1)))))

theorem inv_run (cfg : Cfg) (tl : List (Nat × List Ev)) (s : St) (h : Inv s) : Inv (run cfg s tl) := by
  induction tl generalizing s with
  | nil => exact h
  | cons x xs ih => exact ih _ (inv_instant cfg s x.1 x.2 h)

end Aio.C18
