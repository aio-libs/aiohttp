import AioProps.C11Lemmas
/-! C11 with permessage-deflate: the assumed laws of the un-modelled zlib pair, and the reader
run over a compressed frame. -/
namespace Aio.C11
open Aio Aio.C12

/-- A deflate/inflate pair with the one law the round trip needs.  `Sync d z` = "the inflate
context `z` has seen exactly the output of the deflate context `d`".  The law: compressing a
message with either flush mode, stripping the `00 00 ff ff` tail if present, re-appending it and
inflating with an in-sync context (with no output cap, or a cap above the message length) gives
the message back and leaves the contexts in sync.  zlib is assumed to satisfy it (exercised by
the round-trip oracle on every generated history); it is **not** preserved when some messages
are compressed by another, fresh context — the per-message `compress=` override, see findings. -/
structure Codec where
  D : Deflater
  Z : Inflater
  Sync : D.St → Z.St → Prop
  init_sync : ∀ w, Sync (D.init w) Z.init
  roundtrip : ∀ (d : D.St) (z : Z.St) (m : Bytes) (full : Bool) (maxLen : Nat),
    Sync d z → (maxLen = 0 ∨ m.length < maxLen) →
    (Z.inflate z (stripTrailing (D.deflate d m full).2 ++ [0, 0, 255, 255]) maxLen).2 = .ok m ∧
    Sync (D.deflate d m full).1 (Z.inflate z (stripTrailing (D.deflate d m full).2 ++ [0, 0, 255, 255]) maxLen).1

theorem stripTrailing_append (m : Bytes) : stripTrailing (m ++ [0, 0, 255, 255]) = m := by
  unfold stripTrailing
  have h1 : (m ++ [0, 0, 255, 255]).length - 4 = m.length := by simp
  rw [h1]
  simp

/-- the laws are satisfiable: "store" codec (deflate = append the tail, inflate = drop it) -/
def Codec.toy : Codec where
  D := { St := Unit, init := fun _ => (), deflate := fun _ m _ => ((), m ++ [0, 0, 255, 255]) }
  Z := toyInflater
  Sync := fun _ _ => True
  init_sync := fun _ => trivial
  roundtrip := by
    intro d z m full maxLen _ hm
    refine ⟨?_, trivial⟩
    simp only [stripTrailing_append, toyInflater]
    have : (m ++ [0, 0, 255, 255]).length - 4 = m.length := by simp
    rw [this]
    rcases hm with h | h
    · simp [h]
    · have : ¬ maxLen = 0 := by omega
      simp [this, List.take_of_length_le (Nat.le_of_lt h)]

variable (C : Codec)

/-- what may be sent compressed to a reader with configuration `c` (`lenCore` refuses a frame of
`max_msg_size` bytes or more, `inflateMsg` an inflated message of more than `max_msg_size`) -/
def OkDefl (c : Cfg) (s : Send) (wire : Bytes) : Prop :=
  (s.opcode = 1 ∨ s.opcode = 2) ∧ wire.length < 2 ^ 63 ∧
  (c.maxMsgSize = 0 ∨ (wire.length < c.maxMsgSize ∧ s.payload.length ≤ c.maxMsgSize)) ∧
  (s.opcode = 1 → c.decodeText = true → utf8Valid s.payload = true)

theorem handle_deflated (c : Cfg) (k3 : K C.Z) (s : Send) (d : C.D.St) (full : Bool)
    (hok : OkDefl c s (stripTrailing (C.D.deflate d s.payload full).2))
    (hp : k3.partialMsg = []) (hop : k3.frameOpcode = s.opcode)
    (hcz : k3.compressed = some true) (hfin : k3.frameFin = true) (hsync : C.Sync d k3.z) :
    ∃ z', C.Sync (C.D.deflate d s.payload full).1 z' ∧
      handleFrame c k3 k3.frameFin k3.frameOpcode (stripTrailing (C.D.deflate d s.payload full).2) k3.compressed
        = .ok (deliver { k3 with z := z' } (toMsg s)) := by
  obtain ⟨hd, _, hsz, hu⟩ := hok
  -- the cap handed to `decompress_sync` is `max_msg_size + 1`, so it never cuts an admissible message
  obtain ⟨hr1, hr2⟩ := C.roundtrip d k3.z s.payload full (if c.maxMsgSize ≠ 0 then c.maxMsgSize + 1 else 0) hsync
    (ite_elim (fun m => m = 0 ∨ s.payload.length < m)
      (fun h0 => .inr (Nat.lt_succ_of_le ((hsz.resolve_left h0).2))) fun _ => .inl rfl)
  refine ⟨_, hr2, ?_⟩
  refine handleFrame_data c k3 _ s _ hd hp hop hfin hu ?_
  unfold inflateMsg
  rw [hcz, if_pos (by simp)]
  dsimp only [Gen.C12.deflateTrailing]
  rw [show C.Z.inflate k3.z _ _ = (_, .ok s.payload) from Prod.ext rfl hr1]
  dsimp only
  rw [if_neg fun h : c.maxMsgSize ≠ 0 ∧ s.payload.length > c.maxMsgSize =>
    Nat.lt_irrefl _ (Nat.lt_of_lt_of_le h.2 (hsz.resolve_left h.1).2), hp]

theorem runK_deflated_msg (c : Cfg) (hcomp : c.compress = true) {k : K C.Z} (hidle : Idle k) (s : Send)
    (d : C.D.St) (full : Bool) (hsync : C.Sync d k.z)
    (hok : OkDefl c s (stripTrailing (C.D.deflate d s.payload full).2))
    (useMask : Bool) (hkey : useMask = true → s.maskKey.length = 4) (rest : Bytes) :
    ∃ k', Idle k' ∧ k'.msgs = k.msgs ++ [toMsg s] ∧ C.Sync (C.D.deflate d s.payload full).1 k'.z ∧
      runK c k (wireFrame useMask s.opcode 0x40 s.maskKey (stripTrailing (C.D.deflate d s.payload full).2) ++ rest)
        = runK c k' rest := by
  have ⟨hd, hn, hsz, _⟩ := hok
  have h2 : s.opcode ≤ 2 := by omega
  have h7 : ¬ s.opcode > 7 := by omega
  obtain ⟨z', hsy, hp⟩ := handle_deflated C c (framed k s.opcode 64 useMask s.maskKey _) s d full hok
    hidle.partialMsg rfl (if_neg h7) (if_neg h7) hsync
  exact ⟨_, idle_after hidle _ _ _ _ _ z' _, rfl, hsy,
    runK_wireFrame c hidle (hd.elim .inl fun h => .inr (.inl h)) (.inr ⟨rfl, h2, hcomp⟩) useMask hkey hn
      (fun _ => hsz.imp id And.left) (fun h => absurd h h7) rfl hp rest⟩

/-- the bytes the writer emits on a permessage-deflate connection (no per-message override):
control frames plain, data frames through the shared compressor `d` -/
def compWire (cfg : WCfg) : C.D.St → List Send → Bytes
  | _, [] => []
  | d, s :: ss =>
    if s.opcode ≥ 8 then wireFrame cfg.useMask s.opcode 0 s.maskKey s.payload ++ compWire cfg d ss
    else wireFrame cfg.useMask s.opcode 0x40 s.maskKey (stripTrailing (C.D.deflate d s.payload cfg.notakeover).2) ++
           compWire cfg (C.D.deflate d s.payload cfg.notakeover).1 ss

/-- admissible sends on such a connection (sizes are judged on the compressed bytes as well) -/
def OkComp (c : Cfg) (cfg : WCfg) : C.D.St → List Send → Prop
  | _, [] => True
  | d, s :: ss =>
    s.compress = 0 ∧ (cfg.useMask = true → s.maskKey.length = 4) ∧
    (if s.opcode ≥ 8 then OkPlain c s ∧ OkComp c cfg d ss
     else OkDefl c s (stripTrailing (C.D.deflate d s.payload cfg.notakeover).2) ∧
          OkComp c cfg (C.D.deflate d s.payload cfg.notakeover).1 ss)

theorem runK_comp_all (c : Cfg) (hcomp : c.compress = true) (cfg : WCfg) :
    ∀ (sends : List Send) (d : C.D.St) (k : K C.Z),
    Idle k → C.Sync d k.z → OkComp C c cfg d sends →
    ∃ k', Idle k' ∧ k'.msgs = k.msgs ++ sends.map toMsg ∧
      runK c k (compWire C cfg d sends) = { k := k', tail := [], exc := none } := by
  intro sends
  induction sends with
  | nil => intro d k hidle _ _; exact ⟨k, hidle, (List.append_nil _).symm, runK_nil c hidle.phase⟩
  | cons s ss ih =>
    intro d k hidle hsync hok
    obtain ⟨_, hkey, hrest⟩ := hok
    unfold compWire
    by_cases hctl : s.opcode ≥ 8
    · rw [if_pos hctl] at hrest ⊢
      obtain ⟨k1, hi1, hm1, hz1, he1⟩ := runK_plain_msg c hidle hrest.1 cfg.useMask hkey (compWire C cfg d ss)
      obtain ⟨k2, hi2, hm2, he2⟩ := ih d k1 hi1 (hz1 ▸ hsync) hrest.2
      exact ⟨k2, hi2, by rw [hm2, hm1, List.append_assoc]; rfl, he1.trans he2⟩
    · rw [if_neg hctl] at hrest ⊢
      obtain ⟨k1, hi1, hm1, hz1, he1⟩ := runK_deflated_msg C c hcomp hidle s d cfg.notakeover hsync
        hrest.1 cfg.useMask hkey (compWire C cfg _ ss)
      obtain ⟨k2, hi2, hm2, he2⟩ := ih _ k1 hi1 hz1 hrest.2
      exact ⟨k2, hi2, by rw [hm2, hm1, List.append_assoc]; rfl, he1.trans he2⟩

theorem sendAll_comp_out (c : Cfg) (cfg : WCfg) (hcfg : cfg.compress ≠ 0) :
    ∀ (sends : List Send) (w : W C.D) (d : C.D.St),
    w.ws.transportClosing = false → w.comp.getD (C.D.init cfg.compress) = d →
    (∀ s ∈ sends, s.compress = 0 ∧ (s.opcode = 1 ∨ s.opcode = 2 ∨ s.opcode = 8 ∨ s.opcode = 9 ∨ s.opcode = 10)) →
    OkComp C c cfg d (accepted w.ws.closing sends) →
    (sendAll cfg w sends).ws.out = w.ws.out ++ compWire C cfg d (accepted w.ws.closing sends) := by
  intro sends
  induction sends with
  | nil => intro w d _ _ _ _; simp [sendAll, compWire, accepted]
  | cons s ss ih =>
    intro w d ht hd hops hok
    obtain ⟨hs0, hopv⟩ := hops s (by simp)
    have hopsr := fun x hx => hops x (List.mem_cons_of_mem s hx)
    by_cases hno : w.ws.closing = true ∧ s.opcode &&& 8 = 0
    · simp only [accepted, if_pos hno] at hok ⊢
      simp only [sendAll, sendFrame_refused cfg w s hno]
      exact ih w d ht hd hopsr hok
    · simp only [accepted, if_neg hno] at hok ⊢
      obtain ⟨_, _, hrest⟩ := hok
      by_cases hctl : s.opcode ≥ 8
      · rw [if_pos hctl] at hrest
        obtain ⟨hokp, hokr⟩ := hrest
        obtain ⟨h1, h2, h3, h4⟩ := sendFrame_plain cfg w s hno ht hopv hokp.1
          (by unfold route; simp [hs0, Gen.C11.controlOpcode, hctl]) rfl
        simp only [sendAll, compWire, if_pos hctl]
        rw [ih _ d h2 (h4 ▸ hd) hopsr (h3 ▸ hokr), h1, h3, List.append_assoc]
      · rw [if_neg hctl] at hrest
        obtain ⟨hokd, hokr⟩ := hrest
        have hop : s.opcode = 1 ∨ s.opcode = 2 := hokd.1
        have hroute : route cfg s.opcode s.compress s.payload.length =
            .shared cfg.compress cfg.notakeover (decide (¬ s.payload.length ≤ Gen.C11.maxSyncChunk)) := by
          unfold route
          have : ¬ s.opcode ≥ Gen.C11.controlOpcode := hctl
          simp [hs0, hcfg, this]
        have hsf : (sendFrame cfg w s.payload s.opcode s.compress s.maskKey).1 =
            { ws := (sendFrameZ cfg w.ws s.payload s.opcode s.compress s.maskKey
                      (C.D.deflate d s.payload cfg.notakeover).2).1,
              comp := some (C.D.deflate d s.payload cfg.notakeover).1 } := by
          unfold sendFrame; rw [if_neg hno]; simp only [hroute, hd]
        obtain ⟨h1, h2, h3⟩ := sendFrameZ_accepted cfg w.ws s 0x40 _ _ hno ht
          (firstByte_fields s.opcode (by rcases hop with h | h <;> simp [h]) 64 (by simp)).1 hokd.2.1
          (by unfold framePlan; rw [hroute]) rfl
        simp only [sendAll, compWire, if_neg hctl, hsf]
        rw [ih _ _ h2 rfl hopsr (h3 ▸ hokr), h1, h3, List.append_assoc]
        rfl

end Aio.C11
