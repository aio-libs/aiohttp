import AioModel.C07
import AioProps.C07Lemmas
/-!
# C07 — connection pool: limits hold, nothing leaks, no waiter is forgotten

All theorems quantify over **every label sequence** `ls` (every interleaving, at await
granularity, of spawns, single event-loop callbacks, connection attempts succeeding or failing,
cancellations, connect timeouts, releases, lost idle connections, connector close, shuffle
results, returns of trace callbacks, passage of time and firings of the keep-alive sweep) from the
initial state of any number of tasks with any keys, any limits and any set `mask` of trace hooks
whose callbacks really suspend
(on_connection_reuseconn / queued_start / queued_end / create_start / create_end).

They are about `step Fixes.all`, the model of `BaseConnector` with the five repairs switched on
(AioModel/C07.lean; the repaired code was checked to conform to this model by the same trace
conformance run as the unrepaired one).  For `Fixes.none` — the code as it is — the
`*_unfixed` theorems are kernel-checked counterexamples.
-/
namespace Aio.C07

theorem reachable (limit lph mask ka : Nat) (keys : List Key) (ls : List Label) :
    Good (run Fixes.all (init limit lph keys mask ka) ls) :=
  good_run (good_init limit lph keys mask ka) ls

/-- After every label sequence the number of entries of `_acquired` (connections in
use + placeholders of connections being established) is at most `limit` (0 = unlimited) and, for
every key, the number of entries of `_acquired_per_host[key]` is at most `limit_per_host`. -/
theorem limit_inv (limit lph mask ka : Nat) (keys : List Key) (ls : List Label) :
    let s := run Fixes.all (init limit lph keys mask ka) ls
    (s.limit = 0 ∨ s.acquired.length ≤ s.limit) ∧ (s.lph = 0 ∨ ∀ k, hostCount s k ≤ s.lph) := by
  have h := (reachable limit lph mask ka keys ls).1
  exact ⟨h.lim, h.limh⟩

/-- **attempts are counted.** While the connector is open, every task that is establishing a connection
has its placeholder in `_acquired` (and in `_acquired_per_host` under its key when a per-host limit
is set): the count bounded by `limit_inv` really includes every connection attempt in progress. -/
theorem attempts_counted (limit lph mask ka : Nat) (keys : List Key) (ls : List Label) (t : Tid) (r : Option Bool) :
    let s := run Fixes.all (init limit lph keys mask ka) ls
    s.closed = false → pcOf s t = some (.creating r) →
      Slot.ph t ∈ s.acquired ∧ (s.lph ≠ 0 → (keyOf s t, Slot.ph t) ∈ s.perHost) := by
  intro s hc hp
  exact (reachable limit lph mask ka keys ls).1.present hc t _ hp rfl

/-- a request is live while it is queued to start, waits for a slot, establishes or holds a connection -/
def Pc.live : Pc → Prop
  | .start => True | .waiting => True | .creating _ => True | .holding _ => True
  | _ => False

/-- In any reachable state in which no request is live (every task has not started, has
released its connection, or has failed / was cancelled / timed out) nothing remains counted:
`_acquired`, `_acquired_per_host` and the waiter queues are empty.  (Quiescence is not even needed.) -/
theorem no_leak (limit lph mask ka : Nat) (keys : List Key) (ls : List Label) :
    let s := run Fixes.all (init limit lph keys mask ka) ls
    (∀ t pc, pcOf s t = some pc → ¬ pc.live) → s.acquired = [] ∧ s.perHost = [] ∧ s.waitq = [] := by
  intro s hdead
  have h := (reachable limit lph mask ka keys ls).1
  -- whoever accounts for a slot is live
  have dead : ∀ k sl, ¬ Owns s k sl := fun k sl ⟨t, p, hp, hs, _⟩ =>
    hdead t p hp (by cases p <;> first | exact trivial | cases hs)
  refine ⟨?_, ?_, ?_⟩ <;> apply List.eq_nil_iff_forall_not_mem.mpr
  · exact fun sl hm => (h.owner sl hm).elim fun k => dead k sl
  · exact fun z hm => dead _ _ (h.hostOwner z hm)
  · exact fun t hm => hdead t _ (h.waiting t hm) trivial

/-- the hypothesis of `no_leak` is satisfiable in a non-trivial run: one request connects and releases,
a second one is cancelled while waiting for the slot -/
example :
    let s := run Fixes.all (init 1 0 [0, 0]) [.spawn 0, .tick, .spawn 1, .tick, .createDone 0 true, .tick,
      .cancel 1, .tick, .release 0 true]
    (∀ t pc, pcOf s t = some pc → ¬ pc.live) ∧ s.conns.length = 1 := by
  intro s
  have e : s.tasks.map (·.pc) = [.done, .failed .cancelled] ∧ s.conns.length = 1 := by decide +kernel
  refine ⟨fun t pc h => ?_, e.2⟩
  unfold pcOf at h
  rw [← List.getElem?_map, e.1] at h
  match t, h with
  | 0, h => cases h; exact id
  | 1, h => cases h; exact id
  | n + 2, h => cases h

/-- In every reachable state in which the connector has been closed: every connection
ever created (before or after the close) is closed — except one that `_create_connection` has just returned and
whose on_connection_create_end callback has not returned yet (it is listed in the ghost `pendingNew`; `connect()`
closes it as soon as that callback returns or is cancelled) —, nothing is counted in `_acquired` /
`_acquired_per_host`, the idle pool is empty and no waiter future is queued any more (close cancelled
every one of them, and nobody can queue on a closed connector). -/
theorem close_closes_all (limit lph mask ka : Nat) (keys : List Key) (ls : List Label) :
    let s := run Fixes.all (init limit lph keys mask ka) ls
    s.closed = true →
      (∀ (c : Cid) (x : Conn), s.conns[c]? = some x → c ∉ s.pendingNew → x.isOpen = false)
      ∧ s.acquired = [] ∧ s.perHost = [] ∧ s.idle = [] ∧ s.waitq = [] := by
  intro s hc
  have ⟨hi, ho⟩ := reachable limit lph mask ka keys ls
  obtain ⟨e1, e2, e3, e4⟩ := hi.closed_empty hc
  refine ⟨?_, e1, e2, e3, e4⟩
  intro c x hx hp
  cases hopen : x.isOpen
  · rfl
  · exfalso
    have : connOpen s c = true := by simp [connOpen, hx, hopen]
    rcases ho c this with h1 | h1 | h1
    · rw [e3] at h1; cases h1
    · rw [e1] at h1; cases h1
    · exact hp h1

/-- `close_closes_all` is not vacuous: a connector closed with one connection in use, one pooled, one attempt
in progress (which then succeeds) and one waiter -/
example :
    let s := run Fixes.all (init 2 0 [0, 0, 0, 0]) [.spawn 0, .tick, .createDone 0 true, .tick, .release 0 true,
      .spawn 1, .tick, .spawn 2, .tick, .spawn 3, .tick, .close, .createDone 2 true, .tick, .tick]
    s.closed = true ∧ s.conns.length = 2 ∧ s.ready = []
      ∧ s.tasks.map (·.pc) = [.done, .holding 0, .failed .closedErr, .failed .cancelled] := by
  decide +kernel

/-- **one key per endpoint.** Two URLs get the same connection key exactly when they name the same endpoint (host,
effective port, is_ssl); so `limit_per_host`, the waiter queues and the idle pool — all indexed by the key — are per
endpoint, not per spelling. -/
theorem endpointKey_eq_iff (a b : UrlParts) :
    endpointKey a = endpointKey b ↔ a.host = b.host ∧ effPort a = effPort b ∧ a.ssl = b.ssl := by
  simp only [endpointKey, Prod.mk.injEq]

/-- spelling the scheme's default port out does not change the key (`http://h/` vs `http://h:80/`,
`https://h/` vs `https://h:443/`), any other explicit port does -/
theorem endpointKey_default_port (h : List Nat) (ssl : Bool) (p : Nat) :
    (endpointKey ⟨h, none, ssl⟩ = endpointKey ⟨h, some p, ssl⟩) ↔ p = defaultPort ssl := by
  rw [endpointKey_eq_iff]
  exact ⟨fun e => e.2.1.symm, fun e => ⟨rfl, e.symm, rfl⟩⟩

/-- **conservation.** In every reachable state every connection the connector ever created is closed, or idle
in the pool, or counted in `_acquired`, or still in `connect()`'s hands inside an on_connection_create_end callback:
no open connection ever drops out of the connector's bookkeeping (so `close()` reaches every one of them —
`close_closes_all`).  This covers `_get` (drops and closes lost/expired idle connections), `_release`, the
keep-alive sweep `_cleanup`, cancellation at every await and close. -/
theorem every_open_connection_tracked (limit lph mask ka : Nat) (keys : List Key) (ls : List Label) (c : Cid) :
    let s := run Fixes.all (init limit lph keys mask ka) ls
    connOpen s c = true → c ∈ s.idle ∨ Slot.conn c ∈ s.acquired ∨ c ∈ s.pendingNew :=
  (reachable limit lph mask ka keys ls).2 c

/-- **the keep-alive sweep partitions the idle pool** (`_cleanup`, any state, any time): the rebuilt pool and the
set of closed entries together are exactly the old pool — the survivors are the reusable entries in their old order,
every other entry is closed, nothing is dropped; connections outside the pool are untouched. -/
theorem cleanup_partitions (s : St) :
    (cleanup s).idle = s.idle.filter (usable s)
    ∧ (∀ c ∈ s.idle, (c ∈ (cleanup s).idle ∧ connOpen (cleanup s) c = connOpen s c) ∨
                      (c ∉ (cleanup s).idle ∧ connOpen (cleanup s) c = false))
    ∧ (cleanup s).idle.length + (s.idle.filter (fun c => !usable s c)).length = s.idle.length
    ∧ (∀ c, c ∉ s.idle → connOpen (cleanup s) c = connOpen s c)
    ∧ (cleanup s).acquired = s.acquired := by
  refine ⟨rfl, fun c hc => ?_, ?_, fun c hc => ?_, rfl⟩
  · rw [connOpen_cleanup]
    show (c ∈ s.idle.filter (usable s) ∧ _) ∨ (c ∉ s.idle.filter (usable s) ∧ _)
    rw [List.mem_filter]
    cases hu : usable s c
    · exact Or.inr ⟨fun h => Bool.noConfusion h.2, if_pos ⟨hc, rfl⟩⟩
    · exact Or.inl ⟨⟨hc, rfl⟩, if_neg fun h => Bool.noConfusion h.2⟩
  · show (s.idle.filter (usable s)).length + _ = _
    rw [← List.countP_eq_length_filter, ← List.countP_eq_length_filter, List.length_eq_countP_add_countP (usable s)]
    simp
  · rw [connOpen_cleanup, if_neg fun h => hc h.1]

/-- a sweep that really partitions: three idle connections released at times 0, 4 and 8 with keep-alive 10; at
time 12 the first one has expired, the other two stay (in order) -/
example :
    let s := run Fixes.all (init 3 0 [0, 0, 0] 0 10)
      [.spawn 0, .spawn 1, .spawn 2, .tick, .tick, .tick, .createDone 0 true, .createDone 1 true, .createDone 2 true,
       .tick, .tick, .tick, .release 0 true, .advance 4, .release 1 true, .advance 4, .release 2 true, .advance 4, .sweep]
    s.idle = [1, 2] ∧ s.conns.map (·.isOpen) = [false, true, true] ∧ s.timer = true := by decide +kernel

/-
**no_forgotten_waiter** (full statement, NOT proved):

  theorem no_forgotten_waiter (limit lph) (keys) (ls) (t) :
      let s := run Fixes.all (init limit lph keys mask ka) ls
      s.ready = [] → t ∈ s.waitq → futOf s t = .pending → hasCap s (keyOf s t) = false

i.e. in every reachable quiescent state no live waiter has capacity for its key.  It is false for
`Fixes.none` (`f8_lost_wakeup_unfixed`, `race_lost_wakeup_unfixed` below).  For `Fixes.all` it needs a counting
invariant (per key: free slots usable by queued waiters ≤ woken waiters that have not run yet) which is not
proved.  What is proved instead is the wake-up step itself, for *every* state:
`release_waiter_wakes` / `no_forgotten_waiter_partial` (their `hk` is the unproved invariant `t ∈ waitq → keyOf s t ∈ wkeys`:
`park` adds the key, `unpark` drops it only when no queued task has it, `close` empties both, nothing else writes `wkeys`).  Missing: the induction that a woken waiter either
takes the slot or (repairs f8, race) passes the wake-up on, so that the wake-ups never run out while an
eligible waiter exists.  That part is covered only by trace conformance and by the exhaustive exploration of
the real (repaired) connector for N ≤ 3 tasks plus sampled larger runs, which never reach such a state.
-/

/-- **the wake-up step** (`_release_waiter`), for every state whatsoever and every shuffle result: if some queued
waiter `t` is live (its future is pending), its key is one of the dict keys of `_waiters`, and there is capacity
for its key, then `_release_waiter` wakes exactly one waiter `u` — `u` was queued, live, has capacity for its own
key; its future is now set and — unless `u` is still inside its on_connection_queued_start callback, in which case it
finds the future set when that callback returns — its wake-up is appended to the loop's ready queue. -/
theorem release_waiter_wakes (s : St) (t : Tid)
    (hk : keyOf s t ∈ s.wkeys) (hcap : hasCap s (keyOf s t) = true) (hw : t ∈ s.waitq) (hf : futOf s t = .pending) :
    ∃ u, u ∈ s.waitq ∧ futOf s u = .pending ∧ hasCap s (keyOf s u) = true
      ∧ (releaseWaiter s).ready = (if (trOf s u).isNone then s.ready ++ [u] else s.ready)
      ∧ futOf (releaseWaiter s) u = .woken :=
  releaseWaiterKeys_wakes _ s t (order_mem hk) hcap hw hf

/-- Whenever a slot is given back on an open connector (`_release_acquired`: a
connection is released or closed, an attempt fails, is cancelled or times out) and afterwards some queued live
waiter has capacity for its key, a queued live waiter with capacity is woken in that very step.
(Hypothesis `hk`: the waiter's key is a key of the `_waiters` dict — true in reachable states, shown by the
`wq=` column of the trace conformance, not proved here.) -/
theorem no_forgotten_waiter_partial (s : St) (k : Key) (sl : Slot) (t : Tid) (hopen : s.closed = false)
    (hk : keyOf s t ∈ s.wkeys) (hw : t ∈ s.waitq) (hf : futOf s t = .pending)
    (hcap : hasCap (dropSlot s k sl) (keyOf s t) = true) :
    ∃ u, u ∈ s.waitq ∧ futOf s u = .pending ∧ hasCap (dropSlot s k sl) (keyOf s u) = true
      ∧ (releaseAcquired s k sl).ready = (if (trOf s u).isNone then s.ready ++ [u] else s.ready)
      ∧ futOf (releaseAcquired s k sl) u = .woken := by
  rw [releaseAcquired_eq, hopen, if_neg Bool.false_ne_true]
  exact release_waiter_wakes (dropSlot s k sl) t hk hcap hw hf

/-- the hypotheses are satisfiable: `limit = 1`, task 0 holds the slot, task 1 is queued; giving the slot back
wakes task 1 -/
example :
    let s := run Fixes.all (init 1 0 [0, 0]) [.spawn 0, .tick, .createDone 0 true, .tick, .spawn 1, .tick]
    s.closed = false ∧ keyOf s 1 ∈ s.wkeys ∧ 1 ∈ s.waitq ∧ futOf s 1 = .pending
      ∧ hasCap (dropSlot s 0 (.conn 0)) (keyOf s 1) = true
      ∧ (releaseAcquired s 0 (.conn 0)).ready = [1] := by
  decide +kernel

/-! ## the code as it is (`Fixes.none`): kernel-checked counterexamples -/

/-- F7 on the model of the code as it is: `limit = 1`, a pooled connection for host 0, a request in
flight to host 1, a new request to host 0 takes the pooled connection on the fast path: two in use.
With the repair the same labels leave one in use. -/
def f7Labels : List Label :=
  [.spawn 0, .tick, .createDone 0 true, .tick, .release 0 true, .spawn 1, .tick, .createDone 1 true, .tick, .spawn 2, .tick]
theorem f7_limit_exceeded_unfixed :
    (run Fixes.none (init 1 0 [0, 1, 0]) f7Labels).acquired.length = 2
    ∧ (run Fixes.all (init 1 0 [0, 1, 0]) f7Labels).acquired.length = 1 := by decide +kernel

/-- F8: `limit = 1`; task 0 holds, tasks 1 and 2 wait; 0 closes its connection (wakes 1); 1 is cancelled
before it runs.  Code as it is: quiescent, nothing in use, task 2 still parked on a pending future.
With the repair task 2 is establishing its connection. -/
def f8Labels : List Label :=
  [.spawn 0, .tick, .createDone 0 true, .tick, .spawn 1, .tick, .spawn 2, .tick, .release 0 false, .cancel 1, .tick, .tick]
theorem f8_lost_wakeup_unfixed :
    (let s := run Fixes.none (init 1 0 [0, 0, 0]) f8Labels
     s.ready = [] ∧ s.acquired = [] ∧ s.waitq = [2] ∧ pcOf s 2 = some .waiting ∧ futOf s 2 = .pending ∧ hasCap s 0 = true)
    ∧ (let s := run Fixes.all (init 1 0 [0, 0, 0]) f8Labels
       s.ready = [] ∧ pcOf s 2 = some (.creating none)) := by decide +kernel

/-- a further lost wake-up: `limit_per_host = 1`, no global limit.
Hosts 0 and 1 are busy; tasks 2, 4 wait for host 0 and task 3 for host 1.  The release of host 0 wakes 2;
the release of host 1 wakes 4 (host 0 still looks free, the shuffle put it first).  2 takes host 0's slot,
4 finds none and re-queues without passing the wake-up on: task 3 stays parked although host 1 is free. -/
def raceLabels : List Label :=
  [.shuffle [0, 1], .spawn 0, .tick, .createDone 0 true, .tick, .spawn 1, .tick, .createDone 1 true, .tick,
   .spawn 2, .tick, .spawn 3, .tick, .spawn 4, .tick, .release 0 false, .release 1 false, .tick, .tick]
theorem race_lost_wakeup_unfixed :
    (let s := run Fixes.none (init 0 1 [0, 1, 0, 1, 0]) raceLabels
     s.ready = [] ∧ pcOf s 3 = some .waiting ∧ futOf s 3 = .pending ∧ hasCap s 1 = true)
    ∧ (let s := run Fixes.all (init 0 1 [0, 1, 0, 1, 0]) raceLabels
       pcOf s 3 = some .waiting ∧ futOf s 3 = .woken ∧ s.ready = [3]) := by decide +kernel

/-- `connect()` on a closed connector: `limit = 1`; the connector is closed,
then a request starts: its placeholder is added to `_acquired` and never removed (the attempt ends with
"Connector is closed", `_release_acquired` is a no-op once closed); a second request then parks for ever.
With `limit_per_host` the entries of `_acquired_per_host` also survive `close()`.  With the repair both
requests fail at once and nothing is counted. -/
def afterCloseLabels : List Label :=
  [.close, .spawn 0, .tick, .createDone 0 true, .tick, .spawn 1, .tick]
theorem after_close_leak_unfixed :
    (let s := run Fixes.none (init 1 0 [0, 0]) afterCloseLabels
     s.ready = [] ∧ s.acquired = [.ph 0] ∧ pcOf s 0 = some (.failed .closedErr) ∧ pcOf s 1 = some .waiting
       ∧ futOf s 1 = .pending)
    ∧ (let s := run Fixes.all (init 1 0 [0, 0]) afterCloseLabels
       s.acquired = [] ∧ pcOf s 0 = some (.failed .closedErr) ∧ pcOf s 1 = some (.failed .closedErr)) := by
  decide +kernel

/-- cancellation inside a trace callback: `limit = 1`, the
on_connection_reuseconn callback suspends.  Task 0 connects and releases its connection to the pool; task 1 takes
it from the pool and is cancelled while its reuseconn callback runs: `_get` gives the slot back
(`_release_acquired`) but the connection itself is neither pooled nor closed, so a later `close()` does not close
it.  (The same happens to a freshly created connection when the task is cancelled inside on_connection_create_end.)
With the repair the orphan is closed at once. -/
def traceOrphanLabels : List Label :=
  [.spawn 0, .tick, .createDone 0 true, .tick, .release 0 true, .spawn 1, .tick, .cancel 1, .tick, .close]
theorem trace_orphan_unfixed :
    (let s := run Fixes.none (init 1 0 [0, 0] 1) traceOrphanLabels
     s.closed = true ∧ s.ready = [] ∧ s.pendingNew = [] ∧ connOpen s 0 = true ∧ pcOf s 1 = some (.failed .cancelled))
    ∧ (let s := run Fixes.all (init 1 0 [0, 0] 1) traceOrphanLabels
       s.closed = true ∧ connOpen s 0 = false) := by decide +kernel

/-- the theorems above are not vacuous for traced runs: three requests, one slot, on_connection_create_start
suspends — exactly one request holds the placeholder while its callback runs, the other two are queued -/
example :
    let s := run Fixes.all (init 1 0 [0, 0, 0] 8) [.spawn 0, .spawn 1, .spawn 2, .tick, .tick, .tick]
    s.acquired = [.ph 0] ∧ s.waitq = [1, 2] ∧ trOf s 0 = some (.cstart, false) := by decide +kernel

end Aio.C07
