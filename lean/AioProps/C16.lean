import AioProps.C16Lemmas
/-!
# C16 — property theorems (cookies are sent only where RFC 6265 scoping allows)

Model: `AioModel/C16.lean` (= `aiohttp/cookiejar.py`); reference store: `AioModel/C16Ref.lean`
(RFC 6265 §5.3/§5.4).  Every statement quantifies over **all** histories of responses
(`set`), clock advances, `clear`, `clear_domain`, save+load and queries.

What is proved, and what is not:

* *Selection* (`filter_cookies`) — for every history, the cookies attached to a request are
  exactly those RFC 6265 §5.4 selects from what the jar has **recorded** (domain, path,
  Secure, host-only flag, deadline): theorems `jar_refines_refstore_partial`,
  `never_to_non_matching_host`, `host_only_exact`, `path_scoped_partial`, `secure_only_https`,
  `not_after_expiry`, `nothing_withheld`.
* *Acceptance* (`update_cookies`) — a response can touch nothing outside its own host's
  domain: `cross_site_cannot_set_or_overwrite`.
* The full statement

      ∀ history url, filter (run history) url = Ref.select (Ref.run history) url

  is **false for the unchanged code**: what the jar *records* drifts from what RFC 6265 §5.3
  prescribes in seven ways (eight kernel-checked counterexamples below)
  (`f10_host_only_lost`, `stale_host_only_key`, `stale_deadline_after_overwrite`,
  `invalid_max_age_shadows_expires`, `expires_at_epoch_kept`, `multiple_trailing_slashes`,
  `path_key_collision`, `domain_attr_case`).  The missing half of the refinement is therefore
  "recorded host-only flag / deadline / path identity = the RFC's along every history".
-/
namespace Aio.C16
open Aio

/-- the jar after a history that starts from an empty jar at time `now0` -/
def after (allowIp : Bool) (now0 : Int) (ops : List Op) : World := run allowIp { now := now0 } ops

/-- name → value map attached to a request for (`host`, `rpath`, secure scheme?) after `ops` -/
def sent (allowIp : Bool) (now0 : Int) (ops : List Op) (host rpath : Str) (sec : Bool) : List (Str × Str) :=
  (filter allowIp (after allowIp now0 ops).now (after allowIp now0 ops).jar host rpath sec).2

/-- the jar as that request sees it (expired cookies evicted) -/
def seen (allowIp : Bool) (now0 : Int) (ops : List Op) : Jar :=
  doExpiration (after allowIp now0 ops).jar (after allowIp now0 ops).now

/-- what the RFC 6265 reference store attaches after the same history -/
def refSent (allowIp : Bool) (now0 : Int) (ops : List Op) (host rpath : Str) (sec : Bool) : List (Str × Str) :=
  let r := Ref.run allowIp now0 [] ops
  (Ref.select allowIp r.1 r.2 host rpath sec).map (fun c => (c.name, c.value))

theorem after_inv (allowIp : Bool) (now0 : Int) (ops : List Op) : Inv (after allowIp now0 ops).jar :=
  inv_run allowIp ops _ inv_empty

theorem after_noShared (allowIp : Bool) (now0 : Int) (ops : List Op) (hops : ∀ op ∈ ops, Hostful op) :
    NoShared (after allowIp now0 ops).jar :=
  noShared_run allowIp ops _ hops inv_empty (by intro e he; simp at he)

/-- **Every attached cookie is in scope (all clauses at once).** After any history, every
`name = value` attached to a request is a stored, unexpired cookie whose recorded domain
matches the request host (exactly, if it is recorded host-only), whose stripped path is a
`/`-boundary prefix of the request path and whose full path is not longer than it, and which
is not Secure unless the scheme is. The host-only flag is that of `seen`: the eviction a query starts with
can drop marks. -/
theorem sent_only_in_recorded_scope (allowIp : Bool) (now0 : Int) (ops : List Op)
    (hops : ∀ op ∈ ops, Hostful op) (host rpath : Str) (sec : Bool) (n v : Str)
    (h : aget n (sent allowIp now0 ops host rpath sec) = some v) :
    ∃ e ∈ (after allowIp now0 ops).jar.cookies, e.c.name = n ∧ e.c.value = v ∧
      ¬(isIp host = true ∧ allowIp = false) ∧
      (if (seen allowIp now0 ops).hostOnly.contains (e.c.domain, n) then host == e.c.domain
        else Ref.domainMatch host e.c.domain) = true ∧
      (rstripSlash e.c.path ∈ pathCands rpath ∧ ¬ e.c.path.length > rpath.length) ∧
      (e.c.secure = true → sec = true) ∧
      (∀ w, aget e.key (after allowIp now0 ops).jar.expirations = some w → (after allowIp now0 ops).now < w) := by
  have hI := after_inv allowIp now0 ops
  have hNS := after_noShared allowIp now0 ops hops
  obtain ⟨e, he, hn, hv⟩ := (filter_out_spec allowIp _ _ host rpath sec hI).1 n v h
  have hIx := inv_doExpiration _ (after allowIp now0 ops).now hI
  have hNSx := noShared_doExpiration _ (after allowIp now0 ops).now hNS
  have hec := hits_sub e he
  obtain ⟨h1, h2, h3, h4⟩ := (mem_hits_rfc allowIp _ host rpath sec e hIx hNSx hec).mp he
  obtain ⟨hpre, hexp⟩ := doExpiration_cookies_alive _ _ hI e hec
  subst hn
  exact ⟨e, hpre, rfl, hv, h1, h2, h3, h4, hexp⟩

/-- **Never to a host that does not domain-match.** Whatever the history, a cookie is only
attached to a request whose host RFC 6265-domain-matches the cookie's domain. -/
theorem never_to_non_matching_host (allowIp : Bool) (now0 : Int) (ops : List Op)
    (hops : ∀ op ∈ ops, Hostful op) (host rpath : Str) (sec : Bool) (n v : Str)
    (h : aget n (sent allowIp now0 ops host rpath sec) = some v) :
    ∃ e ∈ (after allowIp now0 ops).jar.cookies, e.c.name = n ∧ e.c.value = v ∧
      Ref.domainMatch host e.c.domain = true := by
  obtain ⟨e, he, hn, hv, _, hd, _⟩ := sent_only_in_recorded_scope allowIp now0 ops hops host rpath sec n v h
  refine ⟨e, he, hn, hv, ?_⟩
  split at hd
  · have : host = e.c.domain := by simpa using hd
    simp [Ref.domainMatch, this]
  · exact hd

/-- **Host-only cookies only to the exact host** — for the host-only flag *as the jar has it
recorded* at the time of the request.  (That the recorded flag can be lost is finding F10,
`f10_host_only_lost` below.) -/
theorem host_only_exact (allowIp : Bool) (now0 : Int) (ops : List Op)
    (hops : ∀ op ∈ ops, Hostful op) (host rpath : Str) (sec : Bool) (n v : Str)
    (h : aget n (sent allowIp now0 ops host rpath sec) = some v) :
    ∃ e ∈ (after allowIp now0 ops).jar.cookies, e.c.name = n ∧ e.c.value = v ∧
      ((e.c.domain, n) ∈ (seen allowIp now0 ops).hostOnly → host = e.c.domain) := by
  obtain ⟨e, he, hn, hv, _, hd, _⟩ := sent_only_in_recorded_scope allowIp now0 ops hops host rpath sec n v h
  refine ⟨e, he, hn, hv, fun hho => ?_⟩
  rw [List.contains_iff_mem.mpr hho, if_pos rfl] at hd
  exact eq_of_beq hd

/- Full statement (false for the unchanged code, see `multiple_trailing_slashes`):
   theorem path_scoped : … ∃ e, … ∧ Ref.pathMatch rpath e.c.path = true -/
/-- **Path scoped (partial).** An attached cookie's stripped path is the request path or a
prefix of it ending at a `/` boundary; and if the cookie path has at most one trailing slash
(`Tame`), the request path RFC 6265-path-matches the cookie path. Missing: cookie paths
ending in two or more slashes (`/x//` is attached to `/x/y`). -/
theorem path_scoped_partial (allowIp : Bool) (now0 : Int) (ops : List Op)
    (hops : ∀ op ∈ ops, Hostful op) (host rpath : Str) (sec : Bool) (n v : Str)
    (h : aget n (sent allowIp now0 ops host rpath sec) = some v) :
    ∃ e ∈ (after allowIp now0 ops).jar.cookies, e.c.name = n ∧ e.c.value = v ∧
      (rstripSlash e.c.path = rpath ∨ (rstripSlash e.c.path ++ [47]) <+: rpath) ∧
      (Tame e.c.path → Ref.pathMatch rpath e.c.path = true) := by
  obtain ⟨e, he, hn, hv, _, _, hp, _⟩ := sent_only_in_recorded_scope allowIp now0 ops hops host rpath sec n v h
  exact ⟨e, he, hn, hv, (mem_pathCands _ _).mp hp.1, fun hT => (pathOK_iff _ _ hT).mp hp⟩

/-- **Secure cookies only over https/wss.** -/
theorem secure_only_https (allowIp : Bool) (now0 : Int) (ops : List Op)
    (hops : ∀ op ∈ ops, Hostful op) (host rpath : Str) (n v : Str)
    (h : aget n (sent allowIp now0 ops host rpath false) = some v) :
    ∃ e ∈ (after allowIp now0 ops).jar.cookies, e.c.name = n ∧ e.c.value = v ∧ e.c.secure = false := by
  obtain ⟨e, he, hn, hv, _, _, _, hs, _⟩ := sent_only_in_recorded_scope allowIp now0 ops hops host rpath false n v h
  exact ⟨e, he, hn, hv, Bool.eq_false_iff.mpr (fun hsec => Bool.false_ne_true (hs hsec))⟩

/-- **Not after expiry** — for the deadline the jar has recorded: a cookie whose recorded
deadline is `≤ now` is never attached. (That the recorded deadline can differ from the RFC's
is shown by `stale_deadline_after_overwrite`, `invalid_max_age_shadows_expires`,
`expires_at_epoch_kept`.) -/
theorem not_after_expiry (allowIp : Bool) (now0 : Int) (ops : List Op)
    (hops : ∀ op ∈ ops, Hostful op) (host rpath : Str) (sec : Bool) (n v : Str)
    (h : aget n (sent allowIp now0 ops host rpath sec) = some v) :
    ∃ e ∈ (after allowIp now0 ops).jar.cookies, e.c.name = n ∧ e.c.value = v ∧
      ∀ w, aget e.key (after allowIp now0 ops).jar.expirations = some w → (after allowIp now0 ops).now < w := by
  obtain ⟨e, he, hn, hv, _, _, _, _, hx⟩ := sent_only_in_recorded_scope allowIp now0 ops hops host rpath sec n v h
  exact ⟨e, he, hn, hv, hx⟩

/-- **Eviction is complete, whatever the heap went through.** After any history — including
every heap clean-up (`> 100` entries and `> 2 ×` live deadlines) at any moment relative to
the deadlines — once `_do_expiration` has run at time `now`, no stored cookie has a recorded
deadline `≤ now`: a due entry is never lost from the heap before it is acted on. (Seeded
defect C16-10 breaks exactly this: a clean-up that also drops due entries.) -/
theorem eviction_complete (allowIp : Bool) (now0 : Int) (ops : List Op) (k : Key) (w : Int)
    (h : aget k (seen allowIp now0 ops).expirations = some w) : (after allowIp now0 ops).now < w :=
  doExpiration_noExpired _ _ (after_inv allowIp now0 ops) k w h

/-- the clean-up keeps every live heap entry (one whose deadline is the recorded one) -/
theorem cleanup_keeps_live_entries (allowIp : Bool) (now0 : Int) (ops : List Op) (k : Key) (w : Int)
    (h : aget k (after allowIp now0 ops).jar.expirations = some w) :
    (w, k) ∈ cleanedHeap (after allowIp now0 ops).jar :=
  cleanedHeap_mem _ k w ((after_inv allowIp now0 ops).heap k w h) h

/-- **Nothing in scope is withheld.** Every stored, unexpired cookie that passes the scope
test has its *name* attached (the result is a name-keyed map, so of several cookies with one
name one value is visible). -/
theorem nothing_withheld (allowIp : Bool) (now0 : Int) (ops : List Op)
    (hops : ∀ op ∈ ops, Hostful op) (host rpath : Str) (sec : Bool) (e : Entry)
    (he : e ∈ (seen allowIp now0 ops).cookies)
    (hip : ¬(isIp host = true ∧ allowIp = false))
    (hd : (if (seen allowIp now0 ops).hostOnly.contains (e.c.domain, e.c.name) then host == e.c.domain
        else Ref.domainMatch host e.c.domain) = true)
    (hp : rstripSlash e.c.path ∈ pathCands rpath ∧ ¬ e.c.path.length > rpath.length)
    (hs : e.c.secure = true → sec = true) :
    (aget e.c.name (sent allowIp now0 ops host rpath sec)).isSome = true := by
  have hI := after_inv allowIp now0 ops
  have hNS := after_noShared allowIp now0 ops hops
  have hIx := inv_doExpiration _ (after allowIp now0 ops).now hI
  have hNSx := noShared_doExpiration _ (after allowIp now0 ops).now hNS
  apply (filter_out_spec allowIp _ _ host rpath sec hI).2 e
  exact (mem_hits_rfc allowIp _ host rpath sec e hIx hNSx he).mpr ⟨hip, hd, hp, hs⟩

/- Full statement (false for the unchanged code — eight counterexamples below):
   theorem jar_refines_refstore : ∀ ops host rpath sec, (∀ op ∈ ops, Hostful op) →
     sent allowIp now0 ops host rpath sec ≈ refSent allowIp now0 ops host rpath sec -/
/-- **The jar refines the reference store (partial: selection half).** After any history, if
every stored cookie path has at most one trailing slash, the attached name → value map is
sound and complete for `Ref.select` (RFC 6265 §5.4) applied to `abs` of the jar — the stored
cookies with the host-only flag and deadline the jar has recorded: every attached
`name = value` is one the reference selection attaches, and every name it attaches is
attached. Missing: that `abs (jar)` equals the reference store's own state along the
history (false — see the counterexamples). -/
theorem jar_refines_refstore_partial (allowIp : Bool) (now0 : Int) (ops : List Op)
    (hops : ∀ op ∈ ops, Hostful op) (host rpath : Str) (sec : Bool)
    (hT : ∀ e ∈ (seen allowIp now0 ops).cookies, Tame e.c.path) :
    (∀ n v, aget n (sent allowIp now0 ops host rpath sec) = some v →
      ∃ c ∈ Ref.select allowIp (after allowIp now0 ops).now (abs (seen allowIp now0 ops)) host rpath sec,
        c.name = n ∧ c.value = v) ∧
    (∀ c ∈ Ref.select allowIp (after allowIp now0 ops).now (abs (seen allowIp now0 ops)) host rpath sec,
      (aget c.name (sent allowIp now0 ops host rpath sec)).isSome = true) :=
  filter_refines allowIp _ _ host rpath sec (after_inv allowIp now0 ops) (after_noShared allowIp now0 ops hops) hT

/-- **One site cannot set or overwrite another site's cookies.** Processing the Set-Cookie
headers of a response from host `h` changes no stored cookie, no host-only mark and no
recorded deadline whose domain `h` does not RFC 6265-domain-match: such entries are exactly
those that were there before (so `evil.org` can neither plant nor replace a cookie of
`example.com`, and `sub.example.com` cannot touch `other.example.com`). -/
theorem cross_site_cannot_set_or_overwrite (now : Int) (h rpath : Str) (hh : h ≠ []) (rs : List Raw) :
    ∀ (j : Jar), j.cookies.Pairwise (fun a b => a.key ≠ b.key) →
    (∀ e, e.dom ≠ [] → Ref.domainMatch h e.dom = false →
      (e ∈ (rs.foldl (acceptOne now (some h) rpath) j).cookies ↔ e ∈ j.cookies)) ∧
    (∀ d n, d ≠ [] → Ref.domainMatch h d = false →
      ((d, n) ∈ (rs.foldl (acceptOne now (some h) rpath) j).hostOnly ↔ (d, n) ∈ j.hostOnly)) ∧
    (∀ k : Key, k.1 ≠ [] → Ref.domainMatch h k.1 = false →
      aget k (rs.foldl (acceptOne now (some h) rpath) j).expirations = aget k j.expirations) := by
  have conv : ∀ d : Str, d ≠ [] → Ref.domainMatch h d = false → isDomainMatch d h = false := by
    intro d hd hm
    cases hx : isDomainMatch d h with
    | false => rfl
    | true => rw [(isDomainMatch_iff d h hd).mp hx] at hm; cases hm
  intro j _
  obtain ⟨g1, g2, g3⟩ := acceptAll_frame now h rpath hh rs j
  exact ⟨fun e hd hm => g1 e (conv _ hd hm), fun d n hd hm => g2 d n (conv _ hd hm),
    fun k hd hm => g3 k (conv _ hd hm)⟩

/-! ## non-vacuity: a concrete history satisfies the hypotheses and attaches a cookie -/

def hE : Str := [101, 46, 99]             -- "e.c"      (think example.com)
def hS : Str := [115, 46, 101, 46, 99]    -- "s.e.c"    (think sub.example.com)
def pRoot : Str := [47]                   -- "/"
def pX : Str := [47, 120]                 -- "/x"
def pXs : Str := [47, 120, 47]            -- "/x/"
def pXss : Str := [47, 120, 47, 47]       -- "/x//"
def pXY : Str := [47, 120, 47, 121]       -- "/x/y"
def pY : Str := [47, 121]                 -- "/y"
def nA : Str := [97]
def v1 : Str := [49]
def v2 : Str := [50]
/-- `name=value` with optional Domain / Path / Max-Age / Expires -/
def ck (v dom path : Str) (ma ex : Att) : Raw := ⟨nA, v, dom, path, false, ma, ex⟩

example : (∀ op ∈ [Op.set (some hE) pRoot [ck v1 hE pX .absent .absent], Op.tick 3], Hostful op) ∧
    aget nA (sent false 0 [Op.set (some hE) pRoot [ck v1 hE pX .absent .absent], Op.tick 3] hS pXY false) = some v1 ∧
    (∀ e ∈ (seen false 0 [Op.set (some hE) pRoot [ck v1 hE pX .absent .absent], Op.tick 3]).cookies,
      e.c.path = rstripSlash e.c.path) := by
  refine ⟨?_, by decide +kernel, by decide +kernel⟩
  intro op h
  simp only [List.mem_cons, List.not_mem_nil, or_false] at h
  rcases h with rfl | rfl <;> simp [Hostful, hE]

/-- Regression witness (seeded defect C16-2): `e.c` sets the domain cookie `a=1; Domain=e.c;
Path=/x` and then the otherwise identical `a=1; Path=/x` without Domain. RFC 6265 §5.3 replaces
the cookie by a host-only one; the model of the unchanged code agrees — the host-only mark is
recorded whether or not the (equal) Morsel is stored again — and `s.e.c` gets nothing. -/
theorem identical_reset_becomes_host_only :
    sent false 0 [.set (some hE) pRoot [ck v1 hE pX .absent .absent], .set (some hE) pRoot [ck v1 [] pX .absent .absent]]
        hS pX false = [] ∧
    refSent false 0 [.set (some hE) pRoot [ck v1 hE pX .absent .absent], .set (some hE) pRoot [ck v1 [] pX .absent .absent]]
        hS pX false = [] ∧
    sent false 0 [.set (some hE) pRoot [ck v1 hE pX .absent .absent], .set (some hE) pRoot [ck v1 [] pX .absent .absent]]
        hE pX false = [(nA, v1)] := by
  decide +kernel

/-! ## counterexamples: where the unchanged code leaves RFC 6265 (each is a reported finding) -/

/-- **F10** `C16/host-only-lost/same-name-other-path-expired`: `e.c` sets `a=1; Path=/x;
Max-Age=1` and the host-only `a=2; Path=/y`. Five seconds later `a=2` is attached to a
request to the *sub-domain* `s.e.c`; the reference store attaches nothing. -/
theorem f10_host_only_lost :
    sent false 0 [.set (some hE) pRoot [ck v1 [] pX (.val 1) .absent, ck v2 [] pY .absent .absent], .tick 5]
        hS pY false = [(nA, v2)] ∧
    refSent false 0 [.set (some hE) pRoot [ck v1 [] pX (.val 1) .absent, ck v2 [] pY .absent .absent], .tick 5]
        hS pY false = [] := by
  decide +kernel

/-- `C16/not-sent/stale-host-only-key`: after the host-only `a=1`, `e.c` sets the *domain*
cookie `a=2; Domain=e.c`. RFC 6265 replaces the cookie and attaches `a=2` to `s.e.c`; the
jar still treats it as host-only and withholds it. -/
theorem stale_host_only_key :
    sent false 0 [.set (some hE) pRoot [ck v1 [] [] .absent .absent], .set (some hE) pRoot [ck v2 hE [] .absent .absent]]
        hS pRoot false = [] ∧
    refSent false 0 [.set (some hE) pRoot [ck v1 [] [] .absent .absent], .set (some hE) pRoot [ck v2 hE [] .absent .absent]]
        hS pRoot false = [(nA, v2)] := by
  decide +kernel

/-- `C16/not-sent/stale-expiry-after-overwrite`: `a=1; Max-Age=5` is overwritten by the
session cookie `a=2`; ten seconds later the jar has evicted `a=2` with the old deadline. -/
theorem stale_deadline_after_overwrite :
    sent false 0 [.set (some hE) pRoot [ck v1 [] [] (.val 5) .absent], .set (some hE) pRoot [ck v2 [] [] .absent .absent], .tick 10]
        hE pRoot false = [] ∧
    refSent false 0 [.set (some hE) pRoot [ck v1 [] [] (.val 5) .absent], .set (some hE) pRoot [ck v2 [] [] .absent .absent], .tick 10]
        hE pRoot false = [(nA, v2)] := by
  decide +kernel

/-- `C16/sent-after-expiry/invalid-max-age-shadows-expires`: with an unparsable Max-Age the
valid Expires (here: time 3) is never looked at; the cookie is still attached at time 10. -/
theorem invalid_max_age_shadows_expires :
    sent false 0 [.set (some hE) pRoot [ck v1 [] [] .bad (.val 3)], .tick 10] hE pRoot false = [(nA, v1)] ∧
    refSent false 0 [.set (some hE) pRoot [ck v1 [] [] .bad (.val 3)], .tick 10] hE pRoot false = [] := by
  decide +kernel

/-- `C16/sent-after-expiry/expires-at-epoch`: `Expires=Thu, 01 Jan 1970 00:00:00 GMT` parses
to 0, which the code takes for "no date": the cookie meant to be deleted is kept for ever. -/
theorem expires_at_epoch_kept :
    sent false 1000 [.set (some hE) pRoot [ck v1 [] [] .absent (.val 0)]] hE pRoot false = [(nA, v1)] ∧
    refSent false 1000 [.set (some hE) pRoot [ck v1 [] [] .absent (.val 0)]] hE pRoot false = [] := by
  decide +kernel

/-- `C16/path-mismatch/multiple-trailing-slashes`: a cookie with `Path=/x//` is attached to
`/x/y`, which it does not path-match. -/
theorem multiple_trailing_slashes :
    sent false 0 [.set (some hE) pRoot [ck v1 [] pXss .absent .absent]] hE pXY false = [(nA, v1)] ∧
    refSent false 0 [.set (some hE) pRoot [ck v1 [] pXss .absent .absent]] hE pXY false = [] := by
  decide +kernel

/-- `C16/not-sent/path-key-collision`: `Path=/x` and `Path=/x/` are different cookies for
RFC 6265 but share the jar key `/x`; the second replaces the first and `/x` gets nothing. -/
theorem path_key_collision :
    sent false 0 [.set (some hE) pRoot [ck v1 [] pX .absent .absent, ck v2 [] pXs .absent .absent]] hE pX false = [] ∧
    refSent false 0 [.set (some hE) pRoot [ck v1 [] pX .absent .absent, ck v2 [] pXs .absent .absent]] hE pX false
      = [(nA, v1)] := by
  decide +kernel

/-- `C16/not-sent/domain-attr-case`: `Domain=E.C` (upper case) from `e.c` is refused; RFC 6265
§5.2.3 lower-cases the attribute and accepts the cookie. -/
theorem domain_attr_case :
    sent false 0 [.set (some hE) pRoot [ck v1 [69, 46, 67] [] .absent .absent]] hE pRoot false = [] ∧
    refSent false 0 [.set (some hE) pRoot [ck v1 [69, 46, 67] [] .absent .absent]] hE pRoot false = [(nA, v1)] := by
  decide +kernel

end Aio.C16
