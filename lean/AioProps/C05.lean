import AioProps.C05Lemmas
/-!
# C05 — property theorems (server connection: each request answered once, in order, or closed)

Model: `AioModel/C05.lean` (= `aiohttp/web_protocol.py:RequestHandler` on the FIFO event-loop
abstraction; the HTTP parser and the handler are oracles).  Every invariant below quantifies
over **all** label sequences (`data n | lost | tick | fire t`), all handler programs and all
parser outputs.

Status of the property's clauses:

* *never open with an unanswered request and no handler running* — `no_orphan_waiter`,
  `conn_inv` (full strength for the wake-up protocol between `data_received` and `start()`);
  the unchanged code still violates the clause in two other ways, proved below as
  counterexamples: `start_dies_on_lazy_url_error` and `declined_upgrade_tail_stuck`.
* *bounded queue of parsed-but-unhandled requests* — `queue_bounded`, `queue_cap` (full strength,
  all label sequences incl. re-entry of `feed_data` with a full queue), under the parser contract
  `POut.respectsCap` that the correspondence run checks on every recorded parser call.
* *one well-formed response per request, in order, no interleaving* — not a theorem: the
  unchanged code violates it (`second_header_block_inside_stream`,
  `close_delimited_body_then_next_response`); carried by correspondence + direct oracle.
* *no exception escapes* — carried by correspondence (`x=` column, `E_OTHER`).
-/
namespace Aio.C05
open Aio

/-- **Lost-wake-up freedom (the core of "no orphan").** In every reachable state, if `start()`
is parked on a waiter future that is still pending, then the message queue is empty, the
`start()` coroutine is at its "wait for next request" await and no handler task exists.
So a queued message never coexists with an idle, un-woken request loop — whatever the
segmentation, the parser's outputs, the handler's behaviour, timers and disconnects. -/
theorem conn_inv (cfg : Cfg) (progs : List Prog) (oracle : List POut) (ls : List Label) :
    WInv (run (init cfg progs oracle) ls) :=
  (run_inv _ ls (init_inv cfg progs oracle)).winv

/-- Corollary in the property's words: whenever a parsed message is queued, the request loop is
not idling on a pending waiter (it has been woken, is running a handler, or is lingering). -/
theorem no_orphan_waiter (cfg : Cfg) (progs : List Prog) (oracle : List POut) (ls : List Label) :
    (run (init cfg progs oracle) ls).messages ≠ [] → (run (init cfg progs oracle) ls).waiter ≠ .pending :=
  fun hne hp => hne ((conn_inv cfg progs oracle ls).1 hp).1

/-- non-vacuity: the idle state *is* reached (pending waiter, empty queue) … -/
example : (run (init {} [] []) []).waiter = .pending ∧ (run (init {} [] []) []).messages = [] := by
  decide +kernel
/-- … and a queued message with a *resolved* waiter as well -/
example : let s := run (init {} [] [{ msgs := [{}] }]) [.data 28]
    s.messages.length = 1 ∧ s.waiter = .resolved ∧ s.ready = [.startWake] := by
  decide +kernel

/-- The generated constants: the protocol's cap and the parser's cap are the same number and
the low-water mark is below it (re-checked against the source on every run). -/
theorem caps_agree :
    Gen.C05.parserMaxMsgQueueSize = Gen.C05.maxMsgQueueSize ∧
    Gen.C05.msgQueueResumeSize < Gen.C05.maxMsgQueueSize ∧ 0 < Gen.C05.maxMsgQueueSize := by
  decide

/-- What `QInv` gives: at most `cap` queued requests. -/
theorem qinv_bound (s : St) (h : QInv s) (hv : s.capViolated = false) (he : s.errPopped = false) :
    nreq s.messages ≤ Gen.C05.parserMaxMsgQueueSize :=
  Nat.le_trans ((h hv).2 he) (h hv).1

/-- **Queue cap (full strength, all label sequences).** In every reachable state — whatever the
segmentation, however often `feed_data` is re-entered (`data_received(b"")` from a body read below
the low-water mark, further segments on a transport that cannot pause), whatever the handlers do —
as long as every parser output respected the parser's side of the contract
(`POut.respectsCap`: no new message is started while `_msg_in_flight >= _max_msg_queue_size`;
a recorded output that breaks it raises `capViolated`, which the correspondence run reports as a
mismatch): `_msg_in_flight` is within the cap and, until an `_ErrInfo` entry has been popped
(after which the connection closes), it covers every queued request. -/
theorem queue_bounded (cfg : Cfg) (progs : List Prog) (oracle : List POut) (ls : List Label) :
    QInv (run (init cfg progs oracle) ls) :=
  (run_inv _ ls (init_inv cfg progs oracle)).qinv

/-- … hence never more than `MAX_MSG_QUEUE_SIZE` parsed-but-unhandled requests. -/
theorem queue_cap (cfg : Cfg) (progs : List Prog) (oracle : List POut) (ls : List Label) :
    (run (init cfg progs oracle) ls).capViolated = false →
    (run (init cfg progs oracle) ls).errPopped = false →
    nreq (run (init cfg progs oracle) ls).messages ≤ Gen.C05.maxMsgQueueSize :=
  caps_agree.1 ▸ qinv_bound _ (queue_bounded cfg progs oracle ls)

/-- 32 requests parsed in one read behind a sleeping handler, on a transport that cannot pause
(32 is the value of `Gen.C05.maxMsgQueueSize`, which the two examples below rely on) -/
def fullQueue (more : List POut) : St :=
  init { canPause := false } [[.sleep 37, .fin .ok]] ({ msgs := List.replicate 32 {} } :: more)

/-- non-vacuity: refilling the slot freed by the first pop is within the contract … -/
example : let s := run (fullQueue [{ msgs := [{}] }]) [.data 900, .tick, .data 28]
    s.capViolated = false ∧ s.inFlight = 32 ∧ nreq s.messages = 32 := by decide +kernel
/-- … and a parser that starts a 33rd message on re-entry with a full queue (a `feed_data` that forgets the
queue state between calls) is flagged, so the hypothesis of `queue_cap` is not void. -/
example : let s := run (fullQueue [{ msgs := [{}] }, { msgs := [{}] }]) [.data 900, .tick, .data 28, .data 28]
    s.capViolated = true ∧ nreq s.messages = 33 := by decide +kernel

/-- Queue cap, the two sections that write the queue (subsumed by `queue_bounded`). `QInv` — "`_msg_in_flight` ≤ cap
and it covers every queued request" — is preserved by `data_received` (for every parser output;
an output that breaks the parser contract raises the `capViolated` flag, which the
correspondence run reports) and by `popleft()+message_consumed()+low-water resume`. -/
theorem queue_cap_sections_partial :
    (∀ s n, QInv s → QInv (dataReceived s n)) ∧
    (∀ s m rest, s.messages = m :: rest → QInv s → QInv (popPrep s m rest)) ∧
    QInv (init {} [] []) :=
  ⟨fun s n => (dataReceived_proto s n).qinv, fun s m rest hm => (popPrep_task s m rest hm).qinv,
    (init_inv {} [] []).qinv⟩

/-- **Unread body, lingering disabled** (`lingering_time = 0`): a handler answers a keep-alive POST without reading its
body while the body is still incomplete — the loop must not go on with the parser inside that body: `close()` is
called and the transport is closed right after the response (instance checked by the kernel; the general rule is the
`.afterLinger` continuation of `startRun`, tied to the code by correspondence on the lingering family). -/
theorem unread_body_without_linger_closes :
    let s := run (init { lingerMs := 0 } [[.fin .ok]] [{ msgs := [{ hasPayload := true, chunks := 1 }] }]) [.data 120, .tick]
    s.close = true ∧ s.tClosing = true ∧ s.spc = .done ∧ s.wire.reverse = [.hdr 0 200 false, .eof 0] := by
  decide +kernel

/-- … whereas with lingering enabled the loop parks in the lingering read (timer armed), transport open. -/
theorem unread_body_with_linger_waits :
    let s := run (init { lingerMs := 10240 } [[.fin .ok]] [{ msgs := [{ hasPayload := true, chunks := 1 }] }, {}]) [.data 120, .tick]
    s.close = false ∧ s.tClosing = false ∧ s.spc = .linger 10240 ∧ s.lingerTimer.isSome = true := by
  decide +kernel

/-- **Keep-alive expiry racing the next request** (same loop iteration: the timer callback is ready but has not run when
`data_received` delivers the request): the waiter is already resolved, `_process_keepalive` must not close — the request
is answered and the connection stays open. (`conn_inv` / `queue_bounded` already cover every such interleaving, since
`fire` and `data` are independent labels; this is the concrete instance, checked by the kernel.) -/
theorem keepalive_expiry_vs_next_request :
    let s := run (init { keepaliveMs := 1500 } [] [{ msgs := [{}] }, { msgs := [{}] }])
      [.data 28, .tick, .fire 200000, .data 28, .tick, .tick]
    s.now = 1500 ∧ s.tClosing = false ∧ s.forceClose = false ∧
      s.wire.reverse = [.hdr 0 200 false, .eof 0, .hdr 1 200 false, .eof 1] ∧ s.waiter = .pending := by
  decide +kernel

/-! ## counterexamples: deviations of the unchanged code, reproduced on the model -/

/-- two plain pipelined GET requests in one read -/
def twoGets : List POut := [{ msgs := [{}, {}] }]

/-- **Finding (interleaving).** A handler that has started a `StreamResponse` and then raises an
`HTTPException` makes the server write a *second* status line + header block inside the first
response's chunked body, keep the connection open and answer the next request. -/
theorem second_header_block_inside_stream :
    (run (init {} [[.prepare true, .fin .e403], [.fin .ok]] twoGets) [.data 56, .tick]).wire.reverse =
      [.hdr 0 200 false, .chunk 0, .hdr 0 403 false, .eof 0, .hdr 1 200 false, .eof 1] := by
  decide +kernel

/-- **Finding (framing).** An HTTP/1.0 keep-alive request answered by a stream without
Content-Length gets a close-delimited body, but `resp.keep_alive` stays true: the next
response is written after it (into what the client must take for the body). -/
theorem close_delimited_body_then_next_response :
    (run (init {} [[.prepare true, .fin .ok], [.fin .ok]]
        [{ msgs := [{ v11 := false, vge11 := false }, {}] }]) [.data 60, .tick]).wire.reverse =
      [.hdr 0 200 true, .chunk 0, .eof 0, .hdr 1 200 false, .eof 1] := by
  decide +kernel

/-- **Finding (orphan).** `CONNECT h:70000`: the parser accepts the target (yarl validates the
port lazily), `BaseRequest.__init__` raises `ValueError` inside `start()` outside its `try`:
the task ends, nothing is written, the transport stays open. -/
theorem start_dies_on_lazy_url_error :
    let s := run (init {} [] [{ msgs := [{ badUrl := true }] }]) [.data 38, .tick]
    s.spc = .done ∧ s.wire = [] ∧ s.tClosing = false ∧ s.tLost = false ∧ s.ready = [] ∧
      s.kaTimer = none ∧ s.lingerTimer = none := by
  decide +kernel

/-- **Finding (orphan).** An upgrade request *with a body* is answered (declined) before its body
is complete; when the body completes the parser switches to "upgraded" and hands the
pipelined bytes back as a tail that nobody re-parses: the request loop idles on its waiter,
the transport is open, the pipelined requests stay unanswered until the keep-alive timer. -/
theorem declined_upgrade_tail_stuck :
    let s := run (init {} [[.fin .ok]]
        [{ msgs := [{ hasPayload := true, chunks := 1 }] }, {},
         { olds := [{ idx := 0, chunks := 1, eof := true, exc := false }], upgraded := true, tailLen := 84 }, {}])
        [.data 90, .tick, .data 86, .tick]
    s.waiter = .pending ∧ s.upgraded = true ∧ s.messageTail = 84 ∧ s.tClosing = false ∧ s.ready = [] ∧
      s.wire.length = 2 := by
  decide +kernel

end Aio.C05
