import AioProps.C08Step
import AioProps.C08Eof
/-!
# C08 — Stream reader: exact ordered delivery with back-pressure

Property theorems about the model `AioModel/C08.lean` (`StreamReader` + the pause/resume
half of `BaseProtocol`).  All statements quantify over **every** read-buffer limit and
**every** finite sequence `ops : List Op` of producer operations (feed_data, begin/end
chunk, feed_eof, set_exception, connection lost) interleaved with consumer operations
(read(n), read(-1), readany, readuntil/readline, readexactly, readchunk, read_nowait, the
async iterators, set_read_chunk_size, resumption of the parked coroutine), and over **both
values** `f` of the behaviour flag `recheck` (`_wait()` re-checks `_exception` after a regular
wake-up: absent before the `fix:` commit, present after; `init = initF Gen.C08.waitRechecksException`
with the flag probed from the source on every run).
-/
namespace Aio.C08
open Aio

/-- The generated chunk-count constants give `low_water_chunks ≥ 2` (the comment in
`StreamReader.__init__`: one split may always remain, so resuming needs `≥ 2`). -/
theorem chunk_constants_ok :
    2 ≤ Gen.C08.chunkFloor / Gen.C08.lowDiv ∧ Gen.C08.highMul = 2 ∧ 0 < Gen.C08.chunkDiv := by decide

/-- The structural invariant (buffer bookkeeping, chunk splits sorted inside
`[cursor, total]`, water-mark relations, waiter discipline, delivery bookkeeping) holds after
every operation sequence from a fresh reader. -/
theorem inv_exec (f : Bool) (limit : Nat) (ops : List Op) : SInv (exec (initF f limit) ops) :=
  exec_sinv (initF_sinv f limit) ops

/-- `run` (with outputs) and `exec` (state only) agree, and the ghost `delivered` is nothing but
the concatenation of the byte strings the operations returned. -/
theorem delivered_is_output {s : S} (hs : SInv s) (ops : List Op) :
    (run s ops).1 = exec s ops ∧
    (exec s ops).delivered = s.delivered ++ ((run s ops).2.map outBytes).flatten := by
  induction ops generalizing s with
  | nil => simp [run, exec]
  | cons op ops ih =>
    have h := ih (step_sinv hs op)
    have hd : (step s op).1.delivered = s.delivered ++ outBytes (step s op).2 := by
      simp only [step]; rw [(step_core hs op).delivered]
    refine ⟨?_, ?_⟩
    · simp only [run, exec, List.foldl_cons]; exact h.1
    · simp only [run, exec, List.foldl_cons, List.map_cons, List.flatten_cons]
      have h2 := h.2
      simp only [exec] at h2
      rw [h2, hd, List.append_assoc]

/-- **Conservation.** After any operation sequence: the bytes taken out of the buffer so far,
followed by the bytes still buffered, are exactly the bytes fed, in order — nothing lost,
duplicated or reordered inside the reader. -/
theorem conservation (f : Bool) (limit : Nat) (ops : List Op) :
    (exec (initF f limit) ops).taken ++ rest (exec (initF f limit) ops) = (exec (initF f limit) ops).fed :=
  (inv_exec f limit ops).inv.cons

/-- **Exact ordered delivery.** Unless some call raised after having taken bytes (LineTooLong,
the installed exception, "Connection closed" — `lost`), the concatenation of everything the
read calls returned, followed by the bytes held by the parked call, followed by the buffer,
is exactly what was fed. -/
theorem delivered_exact (f : Bool) (limit : Nat) (ops : List Op) :
    (exec (initF f limit) ops).lost = false →
    (exec (initF f limit) ops).delivered ++ pendAcc (exec (initF f limit) ops) ++ rest (exec (initF f limit) ops)
      = (exec (initF f limit) ops).fed := by
  intro hl
  have h := inv_exec f limit ops
  rw [h.deliv hl]; exact h.inv.cons

/-- Corollary: what has been returned is always a prefix of what was fed (same proviso). -/
theorem delivered_prefix_of_fed (f : Bool) (limit : Nat) (ops : List Op) :
    (exec (initF f limit) ops).lost = false →
    (exec (initF f limit) ops).delivered <+: (exec (initF f limit) ops).fed := by
  intro hl
  have := delivered_exact f limit ops hl
  exact ⟨_, by rw [← this, List.append_assoc]⟩

/-- A call that returns `blocked` has installed the waiter, and a reader is blocked (waiter
installed, future pending) only on an empty buffer. -/
theorem blocked_only_on_empty_buffer (f : Bool) (limit : Nat) (ops : List Op) (op : Op) :
    ((step (exec (initF f limit) ops) op).2 = .blocked → (step (exec (initF f limit) ops) op).1.waiter = true) ∧
    ((exec (initF f limit) ops).waiter = true →
      (exec (initF f limit) ops).bufs = [] ∧ (exec (initF f limit) ops).fut = .pending) := by
  have h := inv_exec f limit ops
  exact ⟨(step_core h op).blocked, fun hw => ⟨h.inv.waiter_empty hw, (h.inv.waiter_parked hw).2⟩⟩

/-
Full statement wanted (`eof_last`): for every reachable state and every consumer call (including
readuntil/readline, readexactly and the four async iterators, started or resumed), an outcome
that reports end-of-stream (`b""` from a read with n > 0, `(b"", False)`, `StopAsyncIteration`,
`IncompleteReadError`, a line without its separator, the return of `read(-1)`) occurs only in a
state with `eof = true ∧ bufs = []`.
Proved below for the coroutines `read(n)`, `readany()`, `read(-1)` and `readchunk()` at every
state satisfying the invariant (all reachable states do: `inv_exec`), both when started and
when resumed (`contRead` … are the loop entry points used by both).  Missing: the same for
`readuntil` and `readexactly` (they go through the same `_read_nowait_chunk`/`read(n)`; covered by
the correspondence run and the direct oracle only) and the lifting through `iterOut`.
-/
/-- **End-of-stream only after all data** (partial, see above): in any reachable state,
`read(n>0)` / `readany()` returning `b""`, `read(-1)` returning at all, and `readchunk()`
returning `(b"", False)` happen only when `feed_eof` was called and nothing is buffered. -/
theorem eof_last_partial (f : Bool) (limit : Nat) (ops : List Op) :
    let s := exec (initF f limit) ops
    (∀ n it, 0 < n → (contRead s n it).2 = .data [] →
      (contRead s n it).1.eof = true ∧ (contRead s n it).1.bufs = []) ∧
    (∀ it, (contReadAny s it).2 = .data [] →
      (contReadAny s it).1.eof = true ∧ (contReadAny s it).1.bufs = []) ∧
    (∀ fuel acc it x, (contReadAll fuel s acc it).2 = .data x →
      (contReadAll fuel s acc it).1.eof = true ∧ (contReadAll fuel s acc it).1.bufs = []) ∧
    (∀ it, (contReadChunk s it).2 = .chunk [] false →
      (contReadChunk s it).1.eof = true ∧ (contReadChunk s it).1.bufs = []) := by
  intro s
  have hi := (inv_exec f limit ops).inv
  exact ⟨fun n it hn h => contRead_eof hi n hn it h, fun it h => contReadAny_eof hi it h,
    fun fuel acc it x h => contReadAll_eof fuel acc it x hi h, fun it h => (contReadChunk_out hi it h).2 rfl rfl⟩

/-- **readchunk boundaries are the sender's.** In any reachable state, when `readchunk()`
answers `(data, True)`, the consumer position then equals `total_bytes` as it was at some
`end_http_chunk_receiving()` call (ghost `bounds`), and the data returned is exactly the bytes
up to it (`delivered_exact`). -/
theorem readchunk_boundary_sound (f : Bool) (limit : Nat) (ops : List Op) (it : Bool) (d : Bytes) :
    let s := exec (initF f limit) ops
    (contReadChunk s it).2 = .chunk d true → (contReadChunk s it).1.cursor ∈ s.bounds := by
  intro s h
  exact (contReadChunk_out (inv_exec f limit ops).inv it h).1 rfl

/-- hypotheses satisfiable: a chunk boundary reported after `begin; feed; end` -/
example : (contReadChunk (exec (initF true 4) [.beginChunk, .feed [1, 2], .endChunk]) false).2 = .chunk [1, 2] true := by
  decide +kernel

/-- the pending chunk splits are strictly increasing offsets inside `[cursor, total]`, each one
recorded by `end_http_chunk_receiving` -/
theorem splits_sorted_in_range (f : Bool) (limit : Nat) (ops : List Op) (l : List Nat) :
    (exec (initF f limit) ops).splits = some l →
    l.Pairwise (· < ·) ∧ ∀ p ∈ l, (exec (initF f limit) ops).cursor ≤ p ∧ p ≤ (exec (initF f limit) ops).total ∧
      p ∈ (exec (initF f limit) ops).bounds := by
  intro h
  have hi := (inv_exec f limit ops).inv
  exact ⟨hi.sorted l h, fun p hp => ⟨(hi.range l h p hp).1, (hi.range l h p hp).2, hi.inb l h p hp⟩⟩

/-- **Back-pressure bound.** Whenever reading is not paused (and end-of-stream has not been
fed), the buffered size is at most the high-water mark and the number of pending chunk
boundaries at most the chunk high-water mark. -/
theorem reading_implies_bounded (f : Bool) (limit : Nat) (ops : List Op) :
    (exec (initF f limit) ops).paused = false → (exec (initF f limit) ops).eof = false →
    (exec (initF f limit) ops).size ≤ (exec (initF f limit) ops).high ∧
    nsplits (exec (initF f limit) ops) ≤ (exec (initF f limit) ops).highChunks :=
  (inv_exec f limit ops).inv.bounded

/-- `feed_data` pauses reading exactly when the buffered size exceeds the high-water mark
(and tells the transport when one is attached); otherwise the pause flag is unchanged. -/
theorem feed_pauses_above_high_water (s : S) (d : Bytes) (he : s.eof = false) (hd : d ≠ []) :
    (s.size + d.length > s.high →
      (feed s d).1.paused = true ∧ (s.connected = true → (feed s d).1.tpaused = true ∧
        (feed s d).1.evs = s.evs ++ [.pause])) ∧
    (¬ s.size + d.length > s.high → (feed s d).1.paused = s.paused ∧ (feed s d).1.evs = s.evs) := by
  have hd' : d.isEmpty = false := by simpa using hd
  simp only [feed, he, hd', wake_eq, pauseReading_eq, Bool.false_eq_true, if_false]
  constructor
  · intro h; rw [if_pos h]; exact ⟨rfl, fun hc => by simp [hc]⟩
  · intro h; rw [if_neg h]; exact ⟨rfl, rfl⟩

/-- `end_http_chunk_receiving` that records a new boundary pauses reading exactly when the
number of pending boundaries exceeds the chunk high-water mark. -/
theorem endchunk_pauses_above_chunk_high_water (s : S) (sp : List Nat) (hs : s.splits = some sp)
    (hn : s.total ≠ sp.getLast?.getD 0) :
    (sp.length + 1 > s.highChunks → (endChunk s).1.paused = true ∧
      (s.connected = true → (endChunk s).1.tpaused = true)) ∧
    (¬ sp.length + 1 > s.highChunks → (endChunk s).1.paused = s.paused) := by
  simp only [endChunk, hs, hn, if_false]
  constructor
  · intro h; rw [if_pos h, wake_eq, pauseReading_eq]; exact ⟨rfl, fun hc => by simp [hc]⟩
  · intro h; rw [if_neg h, wake_eq]

/-- The single consumption primitive `_read_nowait_chunk` resumes reading iff, after taking its
bytes, the buffered size is below the low-water mark and the pending chunk boundaries are
below the chunk low-water mark; otherwise it leaves the pause flags alone. -/
theorem rnc_resumes_iff_below_low_water (s : S) (n : Option Nat) (hne : s.bufs ≠ []) :
    ((rnc s n).1.size < (rnc s n).1.low ∧ chunksLow (rnc s n).1 = true →
      (rnc s n).1.paused = false ∧ (s.connected = true → (rnc s n).1.tpaused = false)) ∧
    (¬ ((rnc s n).1.size < (rnc s n).1.low ∧ chunksLow (rnc s n).1 = true) →
      (rnc s n).1.paused = s.paused ∧ (rnc s n).1.tpaused = s.tpaused) := by
  cases hb : s.bufs with
  | nil => exact absurd hb hne
  | cons b t =>
    rw [rnc_cons hb]
    unfold maybeResume
    simp only [Bool.and_eq_true, decide_eq_true_eq]
    split
    · rename_i hc
      rw [resumeReading_eq]
      exact ⟨fun _ => ⟨rfl, fun h => show (!s.connected && s.tpaused) = false by rw [h]; rfl⟩, fun hn => absurd hc hn⟩
    · rename_i hc
      exact ⟨fun h => absurd h hc, fun _ => ⟨rfl, rfl⟩⟩

/-
Stated but not proved (covered by the correspondence run and the direct oracle only):

* `readchunk_no_cross`: in every reachable state a `readchunk()` answer `(data, flag)` never
  spans a sender boundary strictly inside it
  (`∀ b ∈ s.bounds, ¬ (s.cursor < b ∧ b < (contReadChunk s it).1.cursor)`), and for a consumer that
  only ever calls `readchunk()` every sender boundary `0 < b < cursor` was answered with `True`.
  Needs the extra invariant "every recorded boundary above the cursor is still in the deque",
  which is temporarily false between `popleft()` and the `_read_nowait` that follows it.
* `consumer_resumes_below_low_water` (operation level): after any consumer call that took at least
  one byte, `size < low ∧ chunksLow → ¬ paused`.  Proved here only for the primitive every call is
  made of (`rnc_resumes_iff_below_low_water`) and, in the form that matters for liveness, as
  `no_stuck_pause`.
-/

theorem waiter_not_paused {s : S} (hi : Inv s) (hp : PInv s) (hw : s.waiter = true) :
    s.bufs = [] ∧ s.paused = false ∧ (s.connected = true → s.tpaused = false) := by
  have hb := hi.waiter_empty hw
  have hpz : s.paused = false := Bool.eq_false_iff.mpr fun hq => hp.paused_nonempty hq hb
  exact ⟨hb, hpz, fun hc => Bool.eq_false_iff.mpr fun ht => by have := hi.tp hc ht; rw [hpz] at this; cases this⟩

/-- **No stuck pause.** With a positive limit, after any operation sequence: a reader
blocked on the (necessarily empty) buffer never has reading paused — neither the protocol
flag nor, while connected, the transport. -/
theorem no_stuck_pause (f : Bool) (limit : Nat) (hl : 0 < limit) (ops : List Op) :
    (exec (initF f limit) ops).waiter = true →
    (exec (initF f limit) ops).bufs = [] ∧ (exec (initF f limit) ops).paused = false ∧
    ((exec (initF f limit) ops).connected = true → (exec (initF f limit) ops).tpaused = false) :=
  waiter_not_paused (inv_exec f limit ops).inv (exec_pinv (initF_sinv f limit) ⟨hl, nofun⟩ ops)

/-- hypotheses of `no_stuck_pause` are satisfiable: a fresh `readany()` blocks -/
example : (exec (initF true 1) [.readAny false]).waiter = true ∧ (exec (initF false 1) [.readAny false]).waiter = true := by
  decide +kernel

/-- a paused, then drained and resumed run (non-vacuity of the pause/resume theorems) -/
example : (exec (initF true 1) [.feed [1, 2, 3]]).paused = true ∧
    (exec (initF true 1) [.feed [1, 2, 3], .readAny false]).paused = false := by decide +kernel

/-- **End of stream un-pauses.** `feed_eof()` never leaves reading paused, whatever the reason it
was paused for (bytes above high water, chunk count, partially drained between the marks): the
next reader on the connection cannot inherit a paused transport. -/
theorem feed_eof_unpauses (s : S) :
    (feedEof s).1.paused = false ∧ (s.connected = true → (feedEof s).1.tpaused = false) ∧
    (feedEof s).1.eof = true := by
  simp only [feedEof, wake_eq, resumeReading_eq, true_and, and_true]
  intro hc; simp [hc]

theorem setChunk_exc (s : S) (n : Nat) : (setChunk s n).exc = s.exc := by
  unfold setChunk; split <;> rfl

/-- **A recorded error is raised by every read call started afterwards** — whatever is buffered
and whether or not `feed_eof` followed: `read(n)`, `read()`, `readany`, `readuntil`/`readline`,
`readexactly`, `readchunk`, `read_nowait` and the four async iterators all raise the exception
installed by `set_exception`; none reports data or a regular end of stream. -/
theorem exception_raised_by_started_reads (s : S) (e : Nat) (he : s.exc = some e) (hp : s.parked = none) :
    (∀ n it, (step s (.read n it)).2 = .err (.exc e)) ∧
    (∀ it, (step s (.readAny it)).2 = .err (.exc e)) ∧
    (∀ sep m it, sep ≠ [] → (step s (.readUntil sep m it)).2 = .err (.exc e)) ∧
    (∀ n, (step s (.readExactly n)).2 = .err (.exc e)) ∧
    (∀ it, (step s (.readChunk it)).2 = .err (.exc e)) ∧
    (∀ n, (step s (.readNowait n)).2 = .err (.exc e)) := by
  refine ⟨?_, ?_, ?_, ?_, ?_, ?_⟩
  · intro n it
    cases it <;> simp [step, core, consumer, hp, startRead, he, setChunk_exc, raise, iterOut_err]
  · intro it
    simp [step, core, consumer, hp, startReadAny, he, raise, iterOut_err]
  · intro sep m it hs
    have : sep.isEmpty = false := by cases sep <;> simp_all
    simp [step, core, consumer, hp, startReadUntil, he, raise, iterOut_err, this]
  · intro n
    simp [step, core, consumer, hp, startReadExactly, he, raise, iterOut_err]
  · intro it
    simp [step, core, consumer, hp, contReadChunk, he, raise, iterOut_err]
  · intro n
    simp [step, core, hp, doReadNowait, he, raise]

/-- **Finding C08-K2…K9 (behaviour before the fix, `recheck = false`).** The guarantee above does
not extend to a call that was already parked: woken by a chunk end that brought no data, with
`set_exception` and `feed_eof` arriving before it resumes, `read(2)` returns `b""` — a regular
end of stream on a failed transfer. -/
theorem resumed_read_clean_end_after_exception :
    (run (initF false 8) [.beginChunk, .feed [120], .readAny false, .read (some 2) false, .endChunk,
                          .setExc 1, .feedEof, .wakeup]).2.getLast? = some (.data []) := by decide +kernel

/-- sibling of the finding (`recheck = false`): same wake-up, the error but no `feed_eof` — the
reader parks again and stays blocked with the exception recorded -/
theorem resumed_read_reparks_with_exception :
    (run (initF false 8) [.beginChunk, .feed [120], .readAny false, .read (some 2) false, .endChunk,
                          .setExc 1, .wakeup]).2.getLast? = some .blocked ∧
    (exec (initF false 8) [.beginChunk, .feed [120], .readAny false, .read (some 2) false, .endChunk,
                           .setExc 1, .wakeup]).waiter = true := by decide +kernel

theorem wakeup_raises {s : S} (hi : Inv s) (hr : s.recheck = true) {e : Nat} (he : s.exc = some e)
    (hp : s.parked.isSome = true) (hw : s.waiter = false) : ∃ e', (step s .wakeup).2 = .err (.exc e') := by
  cases hpk : s.parked with
  | none => rw [hpk] at hp; cases hp
  | some p =>
    cases hf : s.fut with
    | pending => have := hi.fut_pending hf; rw [hw] at this; cases this
    | exc e1 => exact ⟨e1, by simp [step, core, hpk, hw, resume, hf, raise, iterOut_err]⟩
    | ok => exact ⟨e, by simp [step, core, hpk, hw, resume, hf, hr, he, raise, iterOut_err]⟩

/-- **With the fix (`recheck = true`): a resumed call raises the recorded error.** In every
reachable state in which an exception is recorded and a parked call (any read API, any bytes
already taken) is resumed, the outcome is that exception or the one its future was resolved
with — never data, never a regular end of stream, never `blocked`. -/
theorem resumed_reads_raise (limit : Nat) (ops : List Op) (e : Nat) :
    (exec (initF true limit) ops).exc = some e → (exec (initF true limit) ops).parked.isSome = true →
    (exec (initF true limit) ops).waiter = false →
    ∃ e', (step (exec (initF true limit) ops) .wakeup).2 = .err (.exc e') :=
  fun he hp hw => wakeup_raises (inv_exec true limit ops).inv (exec_recheck (initF_sinv true limit) ops) he hp hw

/-- **With the fix (`recheck = true`): no reader stays blocked once an error is recorded.** After
any operation sequence, an exception recorded on the stream and a pending waiter never coexist
(the sibling hang `resumed_read_reparks_with_exception` is gone). -/
theorem no_block_with_exception (limit : Nat) (ops : List Op) :
    (exec (initF true limit) ops).exc ≠ none → (exec (initF true limit) ops).waiter = false :=
  exec_xinv (initF_sinv true limit) (fun _ _ => rfl) ops (exec_recheck (initF_sinv true limit) ops)

theorem blocked_no_exc {s : S} (hs : SInv s) (hx : XInv s) (hr : s.recheck = true) (op : Op)
    (hb : (step s op).2 = .blocked) : (step s op).1.exc = none := by
  have hc := step_core hs op
  cases he : (step s op).1.exc with
  | none => rfl
  | some x =>
    have := hc.xinv hx (hc.recheck.trans hr) (by rw [step_fst] at he; rw [show _ = some x from he]; nofun)
    rw [hc.blocked hb] at this; cases this

/-- **The entry check of `_wait()` (fix 2484903) is unreachable in this model's domain.** With the
wake-up re-check in place, a call that parks (`blocked`) never does so with an exception recorded:
every read API checks `_exception` before its first wait and `_wait()` re-checks it after every
wake-up, and without re-entrant feeding nothing records an error while a call is running.  So
"raise the recorded exception on entering `_wait()`" never fires here and the model needs no
flag for it (the re-entrant case it exists for belongs to C09). -/
theorem blocked_implies_no_exception (limit : Nat) (ops : List Op) (op : Op) :
    (step (exec (initF true limit) ops) op).2 = .blocked →
    (step (exec (initF true limit) ops) op).1.exc = none :=
  blocked_no_exc (inv_exec true limit ops) (exec_xinv (initF_sinv true limit) (fun _ _ => rfl) ops)
    (exec_recheck (initF_sinv true limit) ops) op

/-- the two sequences of the finding, with the fix: both resumed reads raise exception 1 -/
example :
    (run (initF true 8) [.beginChunk, .feed [120], .readAny false, .read (some 2) false, .endChunk,
                         .setExc 1, .feedEof, .wakeup]).2.getLast? = some (.err (.exc 1)) ∧
    (run (initF true 8) [.beginChunk, .feed [120], .readAny false, .read (some 2) false, .endChunk,
                         .setExc 1, .wakeup]).2.getLast? = some (.err (.exc 1)) := by decide +kernel

/-- **Known finding (limit = 0).** `no_stuck_pause` needs `0 < limit`: with `limit = 0`,
feeding two bytes pauses (2 > 0), `readany()` drains them without resuming (0 < 0 is false),
and the next `readany()` parks on the empty buffer with reading paused. -/
theorem limit_zero_wedges : ∀ f : Bool,
    let s := exec (initF f 0) [.feed [97, 98], .readAny false, .readAny false]
    s.waiter = true ∧ s.bufs = [] ∧ s.paused = true ∧ s.tpaused = true := by decide +kernel

end Aio.C08
