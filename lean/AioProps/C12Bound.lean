import AioProps.C12Lemmas
/-! Invariant behind `retained_bounded` / `delivered_bounded` of C12. -/
namespace Aio.C12
open Aio

variable {Z : Inflater}

/-- text, binary or continuation: the frames that `lenCore` and `_handle_frame` count towards the message -/
def isData (op : Nat) : Prop := op = 1 ∨ op = 2 ∨ op = 0

def MsgsBound (c : Cfg) (k : K Z) : Prop := ∀ m ∈ k.msgs, m.size ≤ max c.maxMsgSize 125

/-- the bytes buffered for the frame in progress, plus those still announced, fit the message
size (data frames, together with `_partial`) or the control-frame limit.  Strict for data, since
`lenCore` refuses `n ≥ max_msg_size - len(_partial)`; 125 is what `hdrCore` lets a control frame announce. -/
def InvK (c : Cfg) (k : K Z) : Prop :=
  k.partialMsg.length < c.maxMsgSize ∧
  (match k.phase with
   | .header => k.frags = []
   | .len => k.frags = [] ∧ (¬ isData k.frameOpcode → k.lenFlag ≤ 125)
   | .mask => k.frags = [] ∧ (isData k.frameOpcode → k.toRead + k.partialMsg.length < c.maxMsgSize) ∧
              (¬ isData k.frameOpcode → k.toRead ≤ 125)
   | .payload => (isData k.frameOpcode → k.frags.length + k.toRead + k.partialMsg.length < c.maxMsgSize) ∧
              (¬ isData k.frameOpcode → k.frags.length + k.toRead ≤ 125))

theorem deliver_bound {c : Cfg} {k : K Z} {m : Msg} (h : MsgsBound c k)
    (hm : m.size ≤ c.maxMsgSize ∨ m.size ≤ 125) : MsgsBound c (deliver k m) := by
  intro x hx
  rcases List.mem_append.mp hx with hx | hx
  · exact h x hx
  · cases List.mem_singleton.mp hx
    rcases hm with hm | hm
    · exact Nat.le_trans hm (Nat.le_max_left ..)
    · exact Nat.le_trans hm (Nat.le_max_right ..)

/-- outcome of `inflateMsg`: only the inflate context changes; the result is capped, or is the input -/
def InflatePost (c : Cfg) (p2 : K Z) (asm : Bytes) : Except (K Z × Err) (K Z × Bytes) → Prop
  | .ok (p3, merged) => (∃ z', p3 = { p2 with z := z' }) ∧ (merged.length ≤ c.maxMsgSize ∨ merged = asm)
  | .error (pe, _) => ∃ z', pe = { p2 with z := z' }

theorem inflateMsg_inv {c : Cfg} (hmax : c.maxMsgSize ≠ 0) {p2 : K Z} {cz : Option Bool} {asm : Bytes}
    {r : Except (K Z × Err) (K Z × Bytes)} (h : inflateMsg c p2 cz asm = r) : InflatePost c p2 asm r := by
  subst h
  unfold inflateMsg
  refine ite_elim (InflatePost c p2 asm) (fun _ => ?_) fun _ => ⟨⟨_, rfl⟩, .inr rfl⟩
  dsimp only
  generalize Z.inflate _ _ _ = r
  rcases r with ⟨z', out | _ | _⟩
  · refine ite_elim (InflatePost c p2 asm) (fun _ => ⟨_, rfl⟩) fun h => ⟨⟨_, rfl⟩, .inl ?_⟩
    exact Nat.le_of_not_gt fun h' => h ⟨hmax, h'⟩
  · exact ⟨_, rfl⟩
  · exact ⟨_, rfl⟩

/-- outcome of `_handle_frame` on a state and payload within the bounds -/
def FramePost (c : Cfg) (p : K Z) : Except (K Z × Err) (K Z) → Prop
  | .ok p2 => p2.partialMsg.length < c.maxMsgSize ∧ MsgsBound c p2 ∧ p2.frags = p.frags
  | .error (pe, _) => MsgsBound c pe

theorem handleFrame_inv {c : Cfg} (hmax : c.maxMsgSize ≠ 0) {p : K Z} {fin : Bool} {op : Nat}
    {payload : Bytes} {cz : Option Bool}
    (hp : p.partialMsg.length < c.maxMsgSize)
    (hd : isData op → payload.length + p.partialMsg.length < c.maxMsgSize)
    (hc : ¬ isData op → payload.length ≤ 125)
    (hb : MsgsBound c p) :
    FramePost c p (handleFrame c p fin op payload cz) := by
  have hpos := Nat.pos_of_ne_zero hmax
  unfold handleFrame
  refine ite_elim (FramePost c p) (fun hop => ?_) fun hop => ?_
  · have hd' := hd hop
    unfold handleData
    refine ite_elim (FramePost c p) (fun _ => hb) fun _ => ?_
    refine ite_elim (FramePost c p) (fun _ => ⟨?_, hb, rfl⟩) fun _ => ?_
    · show (p.partialMsg ++ payload).length < _
      rw [List.length_append]; omega
    dsimp only
    refine ite_elim (FramePost c p) (fun _ => hb) fun _ => ?_
    -- `_partial` is joined with the payload and cleared; whether `_opcode` is reset does not matter
    by_cases h0 : op = 0 <;> simp only [h0, if_true, if_false] <;>
    ( generalize hi : inflateMsg c _ cz _ = r
      have hinf := inflateMsg_inv hmax hi
      rcases r with ⟨pe, e⟩ | ⟨p3, merged⟩
      · obtain ⟨z', rfl⟩ := hinf; exact hb
      · obtain ⟨⟨z', rfl⟩, hm⟩ := hinf
        have hl : merged.length ≤ c.maxMsgSize := by
          rcases hm with hm | rfl
          · exact hm
          · show (p.partialMsg ++ payload).length ≤ _
            rw [List.length_append]; omega
        exact ite_elim (FramePost c p)
          (fun _ => ite_elim (FramePost c p) (fun _ => hb) fun _ => ⟨hpos, deliver_bound hb (.inl hl), rfl⟩)
          fun _ => ⟨hpos, deliver_bound hb (.inl hl), rfl⟩ )
  · have hc' := hc hop
    refine ite_elim (FramePost c p) (fun _ => ?_) fun _ => ?_
    · unfold handleClose
      rcases payload with _ | ⟨b0, _ | ⟨b1, reason⟩⟩
      · exact ⟨hp, deliver_bound hb (.inr (by decide)), rfl⟩
      · exact hb
      · refine ite_elim (FramePost c p) (fun _ => hb) fun _ => ite_elim (FramePost c p) (fun _ => hb) fun _ =>
          ⟨hp, deliver_bound hb (.inr ?_), rfl⟩
        refine ite_elim (· ≤ 125) (fun _ => Nat.zero_le _) fun _ => ?_
        rw [Nat.add_comm]; exact hc'
    · exact ite_elim (FramePost c p) (fun _ => ⟨hp, deliver_bound hb (.inr hc'), rfl⟩) fun _ =>
        ite_elim (FramePost c p) (fun _ => ⟨hp, deliver_bound hb (.inr hc'), rfl⟩) fun _ => hb

theorem knownOpcodes_split : ∀ op, op < 16 → Gen.C12.knownOpcodes.contains op = true → isData op ∨ op > 7 := by
  unfold isData; decide

/-- outcome of one block (`onChunk`) -/
def ChunkPost (c : Cfg) : Except (K Z × Err) (K Z) → Prop
  | .ok k' => InvK c k' ∧ MsgsBound c k'
  | .error (pe, _) => MsgsBound c pe

theorem keep_inv {c : Cfg} {k : K Z} (hb : MsgsBound c k) {r : Except Err (K Z)}
    (h : ∀ k', r = .ok k' → InvK c k' ∧ MsgsBound c k') : ChunkPost c (keep k r) := by
  cases r with
  | error e => exact hb
  | ok k' => exact h k' rfl

theorem lenCore_inv {c : Cfg} (hmax : c.maxMsgSize ≠ 0) {k : K Z} {n : Nat}
    (hp : k.partialMsg.length < c.maxMsgSize) (hf : k.frags = []) (hb : MsgsBound c k)
    (hctl : ¬ isData k.frameOpcode → n ≤ 125) : ChunkPost c (keep k (lenCore c k n)) := by
  refine keep_inv hb fun k' h => ?_
  obtain ⟨hno, rfl⟩ := lenCore_ok.mp h
  have hd : isData k.frameOpcode → n + k.partialMsg.length < c.maxMsgSize := fun hd =>
    Nat.add_lt_of_lt_sub (Nat.lt_of_not_ge fun h' => hno ⟨hmax, hd, h'⟩)
  have hf0 : k.frags.length = 0 := by rw [hf]; rfl
  refine ⟨⟨hp, ?_⟩, hb⟩
  dsimp only
  cases k.hasMask
  · exact ⟨fun h => by have := hd h; omega, fun h => by have := hctl h; omega⟩
  · exact ⟨hf, hd, hctl⟩

theorem onChunk_inv {c : Cfg} (hmax : c.maxMsgSize ≠ 0) {k : K Z} {ch : Bytes}
    (hk : InvK c k) (hb : MsgsBound c k) (hl : ch.length = want k) : ChunkPost c (onChunk c k ch) := by
  obtain ⟨hp, hph⟩ := hk
  revert hl; revert hph
  unfold onChunk want
  cases k.phase <;> dsimp only <;> intro hph hl
  · match ch with
    | [] | [_] => exact hb
    | b0 :: b1 :: _ =>
      refine keep_inv hb fun k' h => ?_
      obtain ⟨⟨cz, ff, rfl⟩, hk, h5⟩ := hdrCore_ok h
      exact ⟨⟨hp, hph, fun hn =>
        h5 ((knownOpcodes_split _ (Nat.mod_lt _ (by decide)) hk).resolve_left hn)⟩, hb⟩
  · obtain ⟨hf, hctl⟩ := hph
    refine ite_elim (ChunkPost c) (fun h126 => ?_) fun h126 => ite_elim (ChunkPost c) (fun hgt => ?_) fun _ => ?_
    · match ch with
      | [] | [_] => exact hb
      | b0 :: b1 :: _ => exact lenCore_inv hmax hp hf hb fun hd => by have := hctl hd; omega
    · exact ite_elim (ChunkPost c) (fun _ => hb) fun _ =>
        lenCore_inv hmax hp hf hb fun hd => by have := hctl hd; omega
    · exact lenCore_inv hmax hp hf hb hctl
  · obtain ⟨hf, hd, hc⟩ := hph
    have hf0 : k.frags.length = 0 := by rw [hf]; rfl
    refine ⟨⟨hp, fun h => ?_, fun h => ?_⟩, hb⟩ <;> dsimp only
    · have := hd h; omega
    · have := hc h; omega
  · have hlen : (if k.hasMask = true then maskBytes k.mask (k.frags ++ ch) else k.frags ++ ch).length =
        k.frags.length + k.toRead := by
      rw [← hl, ← List.length_append]
      exact ite_elim (fun x : Bytes => x.length = _) (fun _ => maskBytes_length ..) fun _ => rfl
    have := handleFrame_inv (fin := k.frameFin) (cz := k.compressed) hmax
      (p := { k with toRead := 0, frags := [], phase := .payload }) hp (hlen ▸ hph.1) (hlen ▸ hph.2) hb
    generalize handleFrame c _ _ _ _ _ = r at this ⊢
    rcases r with ⟨pe, e⟩ | p2
    · exact this
    · exact And.intro ⟨this.1, this.2.2⟩ this.2.1

theorem want_le {k : K Z} (h : k.phase ≠ .payload) : want k ≤ 8 := by
  revert h; unfold want
  cases k.phase <;> intro h
  · exact (by decide : 2 ≤ 8)
  · exact ite_elim (· ≤ 8) (fun _ => by decide) fun _ => ite_elim (· ≤ 8) (fun _ => by decide) fun _ => by decide
  · exact (by decide : 4 ≤ 8)
  · exact absurd rfl h

/-- `_tail` is shorter than the longest block outside a payload (the 8-byte length), and empty inside one -/
def InvRK (c : Cfg) (r : RK Z) : Prop :=
  (r.exc = none → InvK c r.k ∧ r.tail.length < 8 ∧ (r.k.phase = .payload → r.tail = [])) ∧ MsgsBound c r.k

theorem runK_inv {c : Cfg} (hmax : c.maxMsgSize ≠ 0) : ∀ (k : K Z) (buf : Bytes),
    InvK c k → MsgsBound c k → InvRK c (runK c k buf) := by
  refine runK_induct c (fun k buf hs hk hb => ?_) (fun k buf pe e hfull hr hk hb => ?_)
    fun k buf q hfull hr ih hk hb => ?_
  · rw [runK_eq, if_pos hs]
    by_cases hph : k.phase = .payload
    · rw [if_pos hph]
      refine ⟨fun _ => ⟨⟨hk.1, ?_⟩, Nat.zero_lt_succ _, fun _ => rfl⟩, hb⟩
      have h2 := hk.2
      have hw := want_payload hph
      rw [hph] at h2
      simp only [hph, List.length_append]
      exact ⟨fun h => by have := h2.1 h; omega, fun h => by have := h2.2 h; omega⟩
    · rw [if_neg hph]
      exact ⟨fun _ => ⟨hk, Nat.lt_of_lt_of_le hs (want_le hph), fun h => absurd h hph⟩, hb⟩
  all_goals
    have hi := onChunk_inv hmax hk hb (List.length_take_of_le hfull)
    rw [hr] at hi
    rw [runK_eq, if_neg (Nat.not_lt.mpr hfull), hr]
  · exact ⟨nofun, hi⟩
  · exact ih hi.1 hi.2

theorem feedK_inv {c : Cfg} (hmax : c.maxMsgSize ≠ 0) (r : RK Z) (d : Bytes) (h : InvRK c r) :
    InvRK c (feedK c r d) := by
  unfold feedK
  cases he : r.exc with
  | some e => exact h
  | none => exact runK_inv hmax _ _ (h.1 he).1 h.2

def InvR (c : Cfg) (r : Reader Z) : Prop := InvRK c r.core

theorem InvR_init (c : Cfg) (hmax : c.maxMsgSize ≠ 0) : InvR c ({} : Reader Z) :=
  ⟨fun _ => ⟨⟨Nat.pos_of_ne_zero hmax, rfl⟩, Nat.zero_lt_succ 7, fun _ => rfl⟩, fun _ hm => nomatch hm⟩

theorem feedAll_InvR (c : Cfg) (hmax : c.maxMsgSize ≠ 0) : ∀ (segs : List Bytes) (r : Reader Z),
    InvR c r → InvR c (feedAll c r segs) := by
  intro segs
  induction segs with
  | nil => intro r h; exact h
  | cons d ds ih =>
    intro r h
    apply ih
    unfold InvR; rw [feed_core]; exact feedK_inv hmax _ _ h

theorem InvR_retained (c : Cfg) (r : Reader Z) (h : InvR c r) (he : r.exc = none) :
    retained r ≤ c.maxMsgSize + 125 := by
  obtain ⟨⟨hp, hph⟩, ht, ht'⟩ := h.1 he
  simp only [Reader.core] at hp hph ht ht'
  unfold retained
  revert ht'; revert hph
  cases r.p.k.phase <;> dsimp only <;> intro hph ht'
  · have : r.p.k.frags.length = 0 := congrArg List.length hph; omega
  · have : r.p.k.frags.length = 0 := congrArg List.length hph.1; omega
  · have : r.p.k.frags.length = 0 := congrArg List.length hph.1; omega
  · have : r.tail.length = 0 := congrArg List.length (ht' rfl)
    -- a control frame inside an open message is the one case that needs the `+ 125`
    by_cases hd : isData r.p.k.frameOpcode
    · have := hph.1 hd; omega
    · have := hph.2 hd; omega

end Aio.C12
