import AioProps.ChunkLoop
/-!
# C03 for chunk-framed bodies: the body-parser laws of `C03Main.PayloadLaws` for `chunkedLoop`

`chunkedLoop_split` is the cut law of the loop; `payloadLaws_all` the laws for every framing, over the
body states the parser itself produces (`AnyBody`, kept by every step: `goodRun_anyBody`).  With them the
two-cut theorem holds for every framing: `feedLoop_append_all`, and `feed_two_reads` for `feed`.
-/
namespace Aio.Http
open Aio

def SplitAt (cfg : Cfg) (f1 : Nat) : Prop :=
  ∀ (p : PState) (a b : Bytes) (evs : List Ev) (p' : PState) (evs' : List Ev) (f2 f3 : Nat),
    a.length < f1 → p.tail = [] → b ≠ [] →
    chunkedLoop cfg f1 p a evs = (.needs p', evs') →
    (a ++ b).length < f2 → (p'.tail ++ b).length < f3 →
    PRel (chunkedLoop cfg f2 p (a ++ b) evs) (chunkedLoop cfg f3 { p' with tail := [] } (p'.tail ++ b) evs')

theorem chunkedLoop_split (cfg : Cfg) : ∀ f1, SplitAt cfg f1 := by
  intro f1
  induction f1 with
  | zero => intro p a b evs p' evs' f2 f3 h; omega
  | succ n ih =>
    intro p a b evs p' evs' f2 f3 hlen ht hb h h2 h3
    by_cases ha : a = []
    · subst ha
      rw [chunkedLoop_nil] at h
      cases h
      simp only [ht, List.nil_append] at h2 h3 ⊢
      rw [pstate_tail_eta p ht, chunkedLoop_fuel cfg f2 f3 p b evs h2 h3]
      exact ⟨rfl, rfl⟩
    · -- both runs on `… ++ b` are given the same fuel, so that after one turn they continue alike
      have hab : a ++ b ≠ [] := List.append_ne_nil_of_left_ne_nil ha b
      have hF : (a ++ b).length < (a ++ b).length + (p'.tail ++ b).length + 1 := by omega
      rw [chunkedLoop_fuel cfg f2 _ p _ evs h2 hF, chunkedLoop_succ cfg _ p _ evs hab]
      rw [chunkedLoop_succ cfg n p a evs ha] at h
      have hext := turn_cut cfg p a b
      cases hturn : turn cfg p a with
      | next q c' new =>
        obtain ⟨hqt, _, j, hj, hjl, rfl⟩ := (turn_ok cfg p a).next hturn
        rw [hturn] at h
        rw [hext.next hturn]
        exact ih q _ b _ p' evs' _ f3 (by rw [List.length_drop]; omega) (hqt.trans ht) hb h
          (by simp only [List.length_append, List.length_drop]; omega) h3
      | ret r new =>
        rw [hturn] at h
        cases h
        have hne : p'.tail ++ b ≠ [] := List.append_ne_nil_of_right_ne_nil _ hb
        rw [chunkedLoop_fuel cfg f3 ((a ++ b).length + (p'.tail ++ b).length + 1) _ _ _ h3 (by omega),
          chunkedLoop_succ cfg _ _ _ (evs ++ new) hne, ← Turn.run_emit]
        exact (hext.needs ht _ _ hturn).prel (chunkedLoop_acc cfg _) evs

def CompletePos (cfg : Cfg) (f : Nat) : Prop :=
  ∀ (p : PState) (c : Bytes) (evs : List Ev) (rest : Bytes) (evs' : List Ev),
    chunkedLoop cfg f p c evs = (.complete rest, evs') → SuffPos c rest

/-- body-parser states as the parser creates and saves them: a chunked body's buffered partial
line holds no line feed; a Content-Length body has bytes left -/
def AnyBody (p : PState) : Prop :=
  (p.type = .chunked → (10 : UInt8) ∉ p.tail) ∧ (p.type = .length → p.length ≠ 0)

/-- the saved chunked-body state does not trip the early length check of the next call -/
def TailOk (cfg : Cfg) (p : PState) : Prop := p.type = .chunked → chunkTailTooLong cfg p = false

theorem payloadLaws_all (cfg : Cfg) : PayloadLaws cfg AnyBody (TailOk cfg) := by
  have hnc := payloadLaws_nonChunked cfg
  refine ⟨fun p a b rest ev hg h => ?_, fun p a rest ev hg ha h => ?_, fun p p' a ev hg h => ?_,
    fun p p' a b ev1 hg h hadm hb => ?_⟩
  · by_cases hp : p.type = .chunked
    · obtain ⟨hc, h⟩ := payloadFeed_chunked_run hp h nofun
      rw [payloadFeed_chunked cfg p _ hp, hc, if_neg Bool.false_ne_true, ← List.append_assoc]
      exact chunkedLoop_complete cfg _ _ _ b _ _ _ _ (Nat.lt_succ_self _) h (Nat.lt_succ_self _)
    · exact hnc.complete_stable p a b rest ev ⟨hp, hg.2⟩ h
  · by_cases hp : p.type = .chunked
    · obtain ⟨_, h⟩ := payloadFeed_chunked_run hp h nofun
      obtain ⟨⟨k, hk0, hkl, hr, hget⟩, _⟩ := chunkedLoop_pos cfg h
      -- the line feed at `k - 1` is not in the old tail, so all of the tail was consumed
      have hk : p.tail.length ≤ k - 1 := by
        apply Nat.le_of_not_lt
        intro hlt
        rw [List.getElem?_append_left hlt] at hget
        exact hg.1 hp (List.mem_of_getElem? hget)
      rw [hr]
      simp at hkl ⊢
      omega
    · exact hnc.complete_shrinks p a rest ev ⟨hp, hg.2⟩ ha h
  · by_cases hp : p.type = .chunked
    · obtain ⟨_, h⟩ := payloadFeed_chunked_run hp h nofun
      obtain ⟨hty, hlf, _⟩ := chunkedLoop_needs cfg (Nat.lt_succ_self _) rfl h
      exact ⟨fun _ => hlf, fun hl => by rw [hty, hp] at hl; cases hl⟩
    · have := hnc.needs_closed p p' a ev ⟨hp, hg.2⟩ h
      exact ⟨fun hc => absurd hc this.1, this.2⟩
  · by_cases hp : p.type = .chunked
    · obtain ⟨hc, h⟩ := payloadFeed_chunked_run hp h nofun
      have hp' : p'.type = .chunked := (chunkedLoop_needs cfg (Nat.lt_succ_self _) rfl h).1.trans hp
      rw [payloadFeed_chunked cfg p _ hp, hc, payloadFeed_chunked cfg p' _ hp', hadm hp', if_neg Bool.false_ne_true,
        ← List.append_assoc]
      have hs := chunkedLoop_split cfg _ _ (p.tail ++ a) b [] p' ev1 _ ((p'.tail ++ b).length + 1)
        (Nat.lt_succ_self _) rfl hb h (Nat.lt_succ_self _) (Nat.lt_succ_self _)
      rw [chunkedLoop_acc cfg _ _ _ ev1] at hs
      exact ⟨hs.1, by simpa using hs.2⟩
    · exact hnc.needs_split p p' a b ev1 ⟨hp, hg.2⟩ h trivial hb

theorem stepOnce_anyBody (cfg : Cfg) (urlOk : Bool → Bytes → Bool) (st : St) (d : Bytes) (hst : StG AnyBody st) :
    StG AnyBody (stepOnce cfg urlOk st d).st := by
  have hs := stepOnce_spec cfg urlOk st d
  generalize stepOnce cfg urlOk st d = s at hs
  cases hs with
  | needs hp hf =>
    intro q hq
    cases hq
    exact (payloadLaws_all cfg).needs_closed _ _ d _ (hst _ hp) hf
  | complete | swallowed => exact stG_of_no_payload _ _ (afterBody_frame st).1
  | raised | upgraded | blank | refused | badLine | line | badHead => exact hst
  | partLine hp =>
    rcases partialLine_cases cfg st d [] with ⟨e, hpl⟩ | ⟨hpl, _⟩ <;> rw [hpl] <;> exact stG_of_no_payload _ _ hp
  | head _ _ _ _ _ ho =>
    obtain ⟨_, _, _, _, _, _, _, _, rfl, hpl⟩ := onHeaderBlock_ok ho
    rcases hpl with rfl | ⟨p, rfl, ht, hlen⟩
    · exact hst
    · intro q hq
      cases hq
      exact ⟨fun _ => by rw [ht]; exact List.not_mem_nil, hlen⟩

theorem goodRun_anyBody (cfg : Cfg) (urlOk : Bool → Bytes → Bool) :
    ∀ (f : Nat) (st : St) (d : Bytes), StG AnyBody st → GoodRun cfg urlOk AnyBody f st d := by
  intro f
  induction f with
  | zero => intro st d _; trivial
  | succ n ih =>
    intro st d hst
    refine Or.inr ⟨hst, ?_⟩
    cases hs : stepOnce cfg urlOk st d with
    | stop o => trivial
    | cont st' d' ev => exact ih st' d' (hs ▸ stepOnce_anyBody cfg urlOk st d hst :)

/-- **Two-cut theorem, every framing.** From any parser state whose body parser (if one is
active) is in a state the parser itself can have produced: processing `a` and then carrying on
from the saved state with `tail ++ b` is observably the same as processing `a ++ b` at once —
same final state (or both failed), same error, same bytes handed back, same events up to the
grouping of body bytes — provided the first part ended without an error and, when it stopped
inside a chunked body, its buffered partial chunk-size/trailer line does not already exceed the
line limit (the one place where `feed_data` looks at its buffer before new bytes arrive). -/
theorem feedLoop_append_all (cfg : Cfg) (urlOk : Bool → Bytes → Bool)
    (f1 : Nat) (st : St) (a b : Bytes) (acc : List Ev) (hf1 : a.length < f1) (ht : st.tail = [])
    (hst : StG AnyBody st)
    (he : (feedLoop cfg urlOk f1 st a acc).err = none)
    (hr : (feedLoop cfg urlOk f1 st a acc).rest = [])
    (hpe : ∀ e, Ev.payloadErr e ∉ (feedLoop cfg urlOk f1 st a acc).evs)
    (hadm : ∀ p', (feedLoop cfg urlOk f1 st a acc).st.payload = some p' → TailOk cfg p')
    (f2 f3 : Nat) (hf2 : ((feedLoop cfg urlOk f1 st a acc).st.tail ++ b).length < f2)
    (hf3 : (a ++ b).length < f3) :
    Equiv (feedLoop cfg urlOk f3 st (a ++ b) acc)
          (feedLoop cfg urlOk f2 { (feedLoop cfg urlOk f1 st a acc).st with tail := [] }
            ((feedLoop cfg urlOk f1 st a acc).st.tail ++ b) (feedLoop cfg urlOk f1 st a acc).evs) :=
  feedLoop_append cfg urlOk (payloadLaws_all cfg) f1 st a b acc hf1 ht
    (fun f => goodRun_anyBody cfg urlOk f st (a ++ b) hst) he hr hpe hadm f2 f3 hf2 hf3

/-- **Two reads are one read** (`HttpParser.feed_data`, every framing). If `feed_data(a)` raises
nothing, hands no bytes back, sets no payload exception and leaves the parser usable, and the
partial chunk-size/trailer line it may have buffered is within the line limit, then
`feed_data(a); feed_data(b)` and `feed_data(a + b)` end in the same parser state (or both
failed), raise the same error, hand back the same bytes and deliver the same events up to the
grouping of body bytes. -/
theorem feed_two_reads (cfg : Cfg) (urlOk : Bool → Bytes → Bool) (st : St) (a b : Bytes)
    (hst : StG AnyBody st) (hf : st.failed = false)
    (he : (feed cfg urlOk st a).err = none) (hr : (feed cfg urlOk st a).rest = [])
    (hpe : ∀ e, Ev.payloadErr e ∉ (feed cfg urlOk st a).evs)
    (hf1 : (feed cfg urlOk st a).st.failed = false)
    (hadm : ∀ p', (feed cfg urlOk st a).st.payload = some p' → TailOk cfg p') :
    let o1 := feed cfg urlOk st a
    let o2 := feed cfg urlOk o1.st b
    let o := feed cfg urlOk st (a ++ b)
    (o.st = o2.st ∨ (o.st.failed = true ∧ o2.st.failed = true)) ∧
      proj o.evs = proj (o1.evs ++ o2.evs) ∧ o.err = o2.err ∧ o.rest = o2.rest := by
  intro o1 o2 o
  have e1 : o1 = _ := feed_usable cfg urlOk a hf
  have eo : o = _ := feed_usable cfg urlOk (a ++ b) hf
  have e2 : o2 = _ := feed_usable cfg urlOk b hf1
  rw [← List.append_assoc] at eo
  have hst' : StG AnyBody ({ st with tail := [] } : St) := fun p hp => hst p hp
  have key := feedLoop_append_all cfg urlOk ((st.tail ++ a).length + 1) { st with tail := [] } (st.tail ++ a) b []
    (Nat.lt_succ_self _) rfl hst' (by rw [← e1]; exact he) (by rw [← e1]; exact hr)
    (by rw [← e1]; exact hpe) (by rw [← e1]; exact hadm)
    ((o1.st.tail ++ b).length + 1) ((st.tail ++ a ++ b).length + 1) (by rw [← e1]; exact Nat.lt_succ_self _)
    (Nat.lt_succ_self _)
  rw [← e1, ← eo] at key
  rw [feedLoop_acc cfg urlOk _ _ _ o1.evs, ← e2] at key
  obtain ⟨k1, k2, k3, k4⟩ := key
  exact ⟨k1, by simpa using k2, k3, k4⟩

/-- Non-vacuity (chunked): `POST / HTTP/1.1`, `Host: a`, `Transfer-Encoding: chunked`, then the
chunk `3 CRLF abc CRLF`, cut inside the chunk data after `3 CRLF a`: the first read ends inside a
chunked body with no error and an empty, admissible tail. -/
example :
    let a : Bytes := [80, 79, 83, 84, 32, 47, 32, 72, 84, 84, 80, 47, 49, 46, 49, 13, 10,
      72, 111, 115, 116, 58, 32, 97, 13, 10,
      84, 114, 97, 110, 115, 102, 101, 114, 45, 69, 110, 99, 111, 100, 105, 110, 103, 58, 32, 99, 104, 117, 110, 107, 101, 100, 13, 10,
      13, 10, 51, 13, 10, 97]
    let o := feed {} (fun _ _ => true) {} a
    o.err = none ∧ o.rest = [] ∧ o.st.failed = false ∧
      (o.st.payload.map (fun p => (p.type, p.cstate, p.chunkSize, p.tail, chunkTailTooLong {} p))) =
        some (.chunked, .chunk, 2, [], false) := by
  decide +kernel

end Aio.Http
