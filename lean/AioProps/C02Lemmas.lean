import AioModel.C02
/-!
# C02 — what the decision layers of `AioModel/C02.lean` compute

Closed forms for the framing each side derives and for when `respPrep` raises; the length and
close-delimited body parser over all segmentations.
-/
namespace Aio.C02
open Aio

/-- API-admissible use of the response API -/
structure RespAdmissible (x : RespIn) (streamed : Nat) : Prop where
  notConnect : x.method ≠ bCONNECT
  /-- `web.Response` computes Content-Length itself; on a stream (or FileResponse) a declared
  length is honoured by the handler: it writes at least that many bytes -/
  cl : ∀ n, x.userCL = some n → x.isResponse = false ∧ (mustBeEmptyBody x.method x.status = false → n ≤ streamed)
  /-- a payload yields (at least) the size it declares -/
  size : ∀ s, x.isResponse = true → x.body = .payload (some s) → mustBeEmptyBody x.method x.status = false → s ≤ streamed
  /-- a handler writes nothing to a response that must not have a body -/
  empty : mustBeEmptyBody x.method x.status = true → x.isResponse = false → streamed = 0
  /-- the compressor's output (oracle column) is never empty -/
  zpos : startCompression x ≠ none → 0 < streamed ∧ 0 < x.zlen

/-- API-admissible use of the client request API -/
structure ReqAdmissible (x : ReqIn) (actual : Nat) : Prop where
  notConnect : x.method ≠ bCONNECT
  truthy : x.dataTruthy = true → x.hasData = true
  noData : x.hasData = false → actual = 0
  /-- the payload yields the size it declares -/
  size : ∀ s, x.size = some s → s = actual
  /-- framing headers are left to aiohttp -/
  noUserCL : x.userCL = none
  noUserTE : x.userTEchunked = false

/-- the three shapes `_start_compression` can leave -/
def CompShape (x : RespIn) (p : Prep) : Prop :=
  (p.wcompress = false ∧ p.bodyCompressed = false ∧ p.cl = respStart x ∧ p.ce = none) ∨
  (p.wcompress = true ∧ p.bodyCompressed = false ∧ p.cl = none ∧
    (x.isResponse = false ∨ x.chunked = true ∨ ∃ s, x.body = .payload s)) ∨
  (p.wcompress = false ∧ p.bodyCompressed = true ∧ p.cl = some x.zlen ∧ x.isResponse = true ∧
    x.chunked = false ∧ ∃ n, x.body = .bytes n)

/-- the `Connection` header `_prepare_headers` adds for a local keep-alive value -/
def connOf (x : RespIn) (kaLocal : Bool) : Option Bool :=
  if x.userConn.isSome then none
  else if kaLocal then (if x.ver.is10 then some false else none)
  else if x.ver.is11 then some true else none

/-- server and client consult the same two tables for "this response has no body" -/
theorem inList_emptyBodyMethods (m : Bytes) :
    inList Gen.Http.emptyBodyMethods m = Http.isEmptyBodyMethod m := by
  unfold inList Http.isEmptyBodyMethod
  cases m with
  -- `isEmptyBodyMethod` guards against the empty method, `inList` does not: the table holds none
  | nil => simp [Gen.Http.emptyBodyMethods, Http.ofNats]
  | cons a t => simp

theorem mustBeEmptyBody_eq (m : Bytes) (code : Nat) (h : m ≠ bCONNECT) :
    mustBeEmptyBody m code = (Http.isEmptyBodyStatus code || Http.isEmptyBodyMethod m) := by
  unfold mustBeEmptyBody
  rw [inList_emptyBodyMethods]
  have : (m == bCONNECT) = false := by simpa using h
  simp [this]

theorem shouldRemoveCL_eq (m : Bytes) (code : Nat) (h : m ≠ bCONNECT) :
    shouldRemoveCL m code = Http.isEmptyBodyStatus code := by
  unfold shouldRemoveCL
  have : (m == bCONNECT) = false := by simpa using h
  simp [this]

theorem head_isEmptyBodyMethod : Http.isEmptyBodyMethod bHEAD = true := by decide

theorem emptyStatus_eq (c : Nat) :
    ((decide (100 ≤ c) && decide (c < 200)) || c == 204 || c == 304) = Http.isEmptyBodyStatus c := by
  rw [Bool.eq_iff_iff]
  simp [Http.isEmptyBodyStatus, Gen.Http.emptyBodyStatus]
  omega

theorem respClose_eq (ver : Ver) (code : Nat) (cc : Option Bool) (hasCL hasTE : Bool) :
    respClose ver code cc hasCL hasTE =
      match cc with
      | some c => c
      | none => if Http.versionLe10 ver.maj ver.min then true
                else if Http.isEmptyBodyStatus code then false
                else if hasCL || hasTE then false else true := by
  unfold respClose
  rw [emptyStatus_eq]
  cases cc <;> rfl

theorem mustBeEmptyBody_false (x : RespIn) (heb : mustBeEmptyBody x.method x.status = false) :
    (x.status != 304) = true ∧ (x.method != bHEAD) = true ∧ shouldRemoveCL x.method x.status = false := by
  unfold mustBeEmptyBody at heb
  simp only [Bool.or_eq_false_iff] at heb
  obtain ⟨⟨h1, h2⟩, h3⟩ := heb
  refine ⟨?_, ?_, ?_⟩
  · simp only [bne_iff_ne, ne_eq]
    intro h; rw [h] at h1; revert h1; decide
  · simp only [bne_iff_ne, ne_eq]
    intro h; rw [h] at h2; revert h2; decide
  · unfold shouldRemoveCL; simp [h1, h3]

/-- `hw`: the parser skips a body only where none can follow (`response_with_body=False` for HEAD). -/
theorem cascade_framing (cfg : Http.Cfg) (msg : Http.Msg) (length : Option Nat)
    (hm : (if cfg.response then cfg.respMethod else msg.method) ≠ bCONNECT)
    (hw : (Http.isEmptyBodyStatus msg.code || (cfg.response && Http.isEmptyBodyMethod cfg.respMethod)) = false →
      cfg.withBody = true) :
    (cascade cfg msg length).framing =
      if Http.isEmptyBodyStatus msg.code || (cfg.response && Http.isEmptyBodyMethod cfg.respMethod) then .none
      else if msg.chunked then .chunked
      else match length with
        | some n => if n > 0 then .length n else .none
        | none => if cfg.readUntilEof then .untilClose else .none := by
  have hm' : ((if cfg.response then cfg.respMethod else msg.method) == Http.bCONNECT) = false := by
    rw [show Http.bCONNECT = bCONNECT from rfl]; simpa using hm
  unfold cascade
  simp only [hm']
  generalize (Http.isEmptyBodyStatus msg.code || (cfg.response && Http.isEmptyBodyMethod cfg.respMethod)) = eb at hw
  cases eb
  · have hwb := hw rfl
    cases hch : msg.chunked
    · rcases length with _ | n
      · cases hr : cfg.readUntilEof <;> simp [hwb, apply_ite View.framing]
      · by_cases hn : n > 0 <;> simp [hwb, hn, apply_ite View.framing]
    · simp [hwb]
  · simp [apply_ite View.framing]

theorem clientView_framing (method : Bytes) (ver : Ver) (code : Nat) (h : RecvHdr) (hnc : method ≠ bCONNECT) :
    (clientView method ver code h).1.framing =
      if Http.isEmptyBodyStatus code || Http.isEmptyBodyMethod method then Framing.none
      else if h.chunked then .chunked
      else match h.cl with
        | some n => if n > 0 then .length n else .none
        | none => .untilClose :=
  cascade_framing (clientCfg method) _ h.cl hnc (by simp [clientCfg, inList_emptyBodyMethods])

theorem serverView_framing (method : Bytes) (ver : Ver) (h : RecvHdr) (hnc : method ≠ bCONNECT) :
    (serverView method ver h).1.framing =
      if h.chunked then Framing.chunked
      else match h.cl with
        | some n => if n > 0 then .length n else .none
        | none => .none :=
  cascade_framing serverCfg { method, vmajor := ver.maj, vminor := ver.min, chunked := h.chunked } h.cl hnc
    fun _ => rfl

theorem prep_after_compression (x : RespIn) (p : Prep)
    (hp : (match startCompression x with
      | some c => doStartCompression x { cl := respStart x } c
      | none => .ok { cl := respStart x }) = .ok p) : CompShape x p := by
  unfold CompShape
  cases hs : startCompression x with
  | none => simp [hs] at hp; subst hp; simp
  | some c =>
    simp only [hs] at hp
    revert hp
    -- the branches that succeed: identity (twice: nothing changes), streaming, whole body
    fun_cases doStartCompression x _ c <;> intro hp <;> cases hp
    · simp
    · rename_i st hs _
      refine Or.inr (Or.inl ⟨rfl, rfl, rfl, ?_⟩)
      rcases hb : x.body with _ | n | s <;> simp [st, hb] at hs ⊢ <;> exact hs
    · simp
    · rename_i st hs _ hb
      refine Or.inr (Or.inr ⟨rfl, rfl, rfl, ?_⟩)
      rcases hb' : x.body with _ | n | s <;> simp [st, hb'] at hs hb ⊢ <;> exact hs

theorem prep_cl_eq_contentLengthProp (x : RespIn) (p : Prep) (hpc : CompShape x p)
    (heb : mustBeEmptyBody x.method x.status = false) (hch : x.chunked = false) :
    p.cl = contentLengthProp x p := by
  obtain ⟨h304, hhead, hrm⟩ := mustBeEmptyBody_false x heb
  unfold contentLengthProp
  cases hr : x.isResponse
  · simp
  · simp only [hch, Bool.not_true, Bool.false_eq_true, if_false]
    rcases hpc with ⟨h1, h2, h3, _⟩ | ⟨h1, h2, h3, h4⟩ | ⟨h1, h2, h3, _⟩
    · rw [h3, h2]
      unfold respStart
      simp only [hr, hch, hrm, h304, hhead]
      cases x.userCL <;> rcases x.body with _ | n | (_ | s) <;> simp
    · rw [h3, h2]
      obtain ⟨s, h4⟩ : ∃ s, x.body = .payload s := by simpa [hr, hch] using h4
      simp [h4]
    · rw [h3]

theorem respPrep_shape (x : RespIn) (o : RespOut) (h : respPrep x = .ok o) :
    ∃ p, CompShape x p ∧
      o.emptyBody = mustBeEmptyBody x.method x.status ∧ o.wcompress = p.wcompress ∧
      o.bodyCompressed = p.bodyCompressed ∧
      o.cl = (if o.emptyBody && shouldRemoveCL x.method x.status then none else p.cl) ∧
      ((o.emptyBody = true ∧ o.wchunked = false ∧ o.te = false ∧ o.conn = connOf x o.keepAlive) ∨
       (o.emptyBody = false ∧ o.wchunked = true ∧ o.te = true ∧ o.wlength = none ∧ o.conn = connOf x o.keepAlive) ∨
       (o.emptyBody = false ∧ o.wchunked = false ∧ o.te = false ∧ x.chunked = false ∧
          o.wlength = contentLengthProp x p ∧
          ((∃ n, o.wlength = some n ∧ o.conn = connOf x o.keepAlive) ∨
           (o.wlength = none ∧ x.ver.ge11 = false ∧ o.conn = connOf x false ∧
              (Gen.C02.closeDelimitedClearsKeepAlive = true → o.keepAlive = false))))) := by
  unfold respPrep at h
  cases ha : respApiCheck x with
  | some e => rw [ha] at h; cases h
  | none =>
    rw [ha] at h
    dsimp only at h
    split at h
    · cases h
    · rename_i p hp
      by_cases hc : (x.chunked && !x.ver.is11) = true
      · rw [if_pos hc] at h; cases h
      · rw [if_neg hc] at h
        injection h with h
        subst h
        refine ⟨p, prep_after_compression x p hp, ?_⟩
        dsimp only
        generalize mustBeEmptyBody x.method x.status = eb
        unfold connOf
        cases hch : x.chunked
        · cases hcl : contentLengthProp x p
          · cases hg : x.ver.ge11 <;> cases eb <;> simp
            intro h1 h2; rw [h1] at h2; cases h2
          · cases eb <;> simp
        · cases eb <;> simp

/-- `_do_start_compression` fails exactly at `assert self._body is not None` of `web.Response` -/
theorem doStartCompression_error (x : RespIn) (p : Prep) (c : Coding) (e : PErr) :
    doStartCompression x p c = .error e ↔
      e = .compressNoBody ∧ x.isResponse = true ∧ x.chunked = false ∧ x.body = .none ∧ c ≠ .identity := by
  -- branches: streaming with identity / with a coding; then identity, no body (the assertion), whole body
  fun_cases doStartCompression x p c
  case case1 _ hc => simp [hc]
  case case2 s hs _ =>
    refine ⟨nofun, fun ⟨_, hr, hch, hb, _⟩ => ?_⟩
    simp [s, hr, hch, hb] at hs
  case case3 _ hc => simp [hc]
  case case4 s hs hc hb =>
    have : x.isResponse = true ∧ x.chunked = false := by simpa [s, hb] using hs
    simp [this, hb, hc, @eq_comm _ PErr.compressNoBody e]
  case case5 _ _ hb => exact ⟨nofun, fun h => (hb h.2.2.2.1).elim⟩

theorem startCompression_error (x : RespIn) (e : PErr) :
    (match startCompression x with
      | some c => doStartCompression x { cl := respStart x } c
      | none => .ok { cl := respStart x }) = .error e ↔
    e = .compressNoBody ∧ x.isResponse = true ∧ x.chunked = false ∧ x.body = .none ∧
      ∃ c, startCompression x = some c ∧ c ≠ .identity := by
  cases startCompression x with
  | none => simp
  | some c => simp [doStartCompression_error]

theorem respPrep_error (x : RespIn) (e : PErr) :
    respPrep x = .error e ↔
      (e = .chunkedWithCL ∧ x.chunked = true ∧ x.userCL.isSome = true) ∨
      (e = .compressNoBody ∧ x.isResponse = true ∧ x.chunked = false ∧ x.body = .none ∧
        ∃ c, startCompression x = some c ∧ c ≠ .identity) ∨
      (e = .chunkedNot11 ∧ x.chunked = true ∧ x.userCL = none ∧ x.ver.is11 = false) := by
  unfold respPrep respApiCheck
  by_cases ha : (x.chunked && x.userCL.isSome) = true
  · rw [if_pos ha]
    simp only [Bool.and_eq_true] at ha
    simp [ha.1, ha.2, Option.isSome_iff_ne_none.mp ha.2, @eq_comm _ PErr.chunkedWithCL e]
  rw [if_neg ha]
  dsimp only
  have ha' : x.chunked = true → x.userCL = none := by
    intro h; simpa [h] using ha
  split
  · rename_i e' hq
    have hq := (startCompression_error x e').mp hq
    simp [hq.1, hq.2.1, hq.2.2.1, hq.2.2.2.1, hq.2.2.2.2, @eq_comm _ PErr.compressNoBody e]
  · rename_i p hq
    have hq' : ¬ (x.isResponse = true ∧ x.chunked = false ∧ x.body = .none ∧
        ∃ c, startCompression x = some c ∧ c ≠ .identity) := fun h =>
      nomatch hq.symm.trans ((startCompression_error x .compressNoBody).mpr ⟨rfl, h⟩)
    by_cases hc : (x.chunked && !x.ver.is11) = true
    · rw [if_pos hc]
      simp only [Bool.and_eq_true, Bool.not_eq_true'] at hc
      simp [hc.1, hc.2, ha' hc.1, @eq_comm _ PErr.chunkedNot11 e]
    · rw [if_neg hc]
      refine ⟨nofun, ?_⟩
      rintro (⟨-, h, h'⟩ | ⟨-, h⟩ | ⟨-, h, -, h'⟩)
      · simp [h, h'] at ha
      · exact (hq' h).elim
      · simp [h, h'] at hc

theorem respClose_connOf (x : RespIn) (ka hasCL hasTE : Bool) (huc : x.userConn = none)
    (hv : x.ver = ⟨1, 1⟩ ∨ x.ver = ⟨1, 0⟩) :
    respClose x.ver x.status (connOf x ka) hasCL hasTE =
      (!ka || (x.ver.is11 && !Http.isEmptyBodyStatus x.status && !(hasCL || hasTE))) := by
  rw [respClose_eq]
  unfold connOf
  rcases hv with hv | hv <;> cases ka <;> simp [hv, huc, Ver.is10, Ver.is11, Http.versionLe10]

theorem writerFraming_respSent (x : RespIn) (o : RespOut) (p : Prep) (streamed n : Nat) (hpc : CompShape x p)
    (he : mustBeEmptyBody x.method x.status = false) (hxc : x.chunked = false)
    (hwz : o.wcompress = p.wcompress) (hbz : o.bodyCompressed = p.bodyCompressed) (hoe : o.emptyBody = false)
    (ha : RespAdmissible x streamed)
    (hn : contentLengthProp x p = some n) :
    writerFraming false (some n) (respSent x o streamed).2 (respSent x o streamed).1 =
      if n > 0 then .length n else .none := by
  suffices hk : (if (respSent x o streamed).2 = true then min n (respSent x o streamed).1
      else (respSent x o streamed).1) = n by
    simp only [writerFraming, Bool.false_eq_true, if_false, hk]
    cases n <;> simp
  obtain ⟨h304, hhead, hrm⟩ := mustBeEmptyBody_false x he
  unfold respSent
  unfold contentLengthProp at hn
  rw [hwz, hbz, hoe]
  rcases hpc with ⟨h1, h2, h3, _⟩ | ⟨h1, h2, h3, h4⟩ | ⟨h1, h2, h3, h5, _, ⟨b, h6⟩⟩
  · rw [h1, h2]
    rw [h3, h2] at hn
    unfold respStart at hn
    cases hr : x.isResponse
    · simp only [hr, Bool.not_false, if_true] at hn ⊢
      have := (ha.cl n hn).2 he
      simp; omega
    · have hu : x.userCL = none :=
        Option.eq_none_iff_forall_ne_some.mpr fun m hu => by simpa [hr] using (ha.cl m hu).1
      simp only [hr, hu, hxc, h304, hhead, Bool.not_true, Bool.false_eq_true, if_false] at hn ⊢
      rcases hb : x.body with _ | b | _ | s <;> simp [hb] at hn ⊢
      · omega
      · omega
      · have := ha.size s hr hb he
        omega
  · rw [h3, h2] at hn
    cases hr : x.isResponse
    · simp [hr] at hn
    · obtain ⟨s, h4⟩ : ∃ s, x.body = .payload s := by simpa [hr, hxc] using h4
      simp [hr, hxc, h4] at hn
  · rw [h1, h2]
    simp [h5, hxc, h3] at hn
    simp [h5, h6, hn]

theorem respVerdict_ok {x : RespIn} {streamed : Nat} {v : RespVerdict} (h : respVerdict x streamed = .ok v) :
    ∃ o, respPrep x = .ok o ∧
      v = { out := o, wire := writerFraming o.wchunked o.wlength (respSent x o streamed).2 (respSent x o streamed).1,
            view := (clientView x.method x.ver x.status (respRecvHdr x o)).1,
            clientClose := (clientView x.method x.ver x.status (respRecvHdr x o)).2 } := by
  unfold respVerdict at h
  split at h
  · cases h
  · injection h with h
    exact ⟨_, ‹_›, h.symm⟩

theorem reqPrep_ok {x : ReqIn} {o : ReqOut} (h : reqPrep x = .ok o) :
    ∃ c, reqCore x = .ok c ∧ o = { c with conn := reqConn x } := by
  unfold reqPrep at h
  split at h
  · cases h
  · injection h with h
    exact ⟨_, ‹_›, h.symm⟩

theorem reqVerdict_ok {x : ReqIn} {actual : Nat} {v : ReqVerdict} (h : reqVerdict x actual = .ok v) :
    ∃ o, reqPrep x = .ok o ∧
      v = { out := o,
            wire := writerFraming o.wchunked (if o.wchunked then none else some (reqSent x o actual)) false
              (reqSent x o actual),
            view := (serverView x.method x.ver (reqRecvHdr x o)).1,
            serverClose := (serverView x.method x.ver (reqRecvHdr x o)).2 } := by
  unfold reqVerdict at h
  split at h
  · cases h
  · injection h with h
    exact ⟨_, ‹_›, h.symm⟩

theorem dataOf_dataEv (bs : Bytes) : dataOf (Http.dataEv bs) = bs := by
  unfold Http.dataEv
  cases bs <;> simp [dataOf]

theorem dataOf_append (a b : List Http.Ev) : dataOf (a ++ b) = dataOf a ++ dataOf b := by
  induction a with
  | nil => rfl
  | cons e t ih => cases e <;> simp [dataOf, ih]

theorem length_run (cfg : Http.Cfg) (segs : List Bytes) (p : Http.PState) (n : Nat) (acc : Bytes)
    (ht : p.type = .length) (hl : p.length = n) (hn : 0 < n) :
    payloadRun cfg p segs acc =
      if n ≤ segs.flatten.length then (acc ++ segs.flatten.take n, some (segs.flatten.drop n))
      else (acc ++ segs.flatten, none) := by
  induction segs generalizing p n acc with
  | nil => simp [payloadRun]; omega
  | cons s ss ih =>
    unfold payloadRun Http.payloadFeed
    simp only [ht, hl, List.flatten_cons]
    by_cases hle : n ≤ s.length
    · have h0 : n - s.length = 0 := by omega
      have : n ≤ (s ++ ss.flatten).length := by simp; omega
      simp only [h0, beq_self_eq_true, if_true, dataOf_append, dataOf, List.append_nil, dataOf_dataEv, this]
      rw [List.take_append_of_le_length hle, List.drop_append_of_le_length hle]
    · have hb : ((n - s.length) == 0) = false := by simpa using Nat.sub_ne_zero_of_lt (by omega)
      have hc : n - s.length ≤ ss.flatten.length ↔ n ≤ (s ++ ss.flatten).length := by
        rw [List.length_append]; omega
      simp only [hb, Bool.false_eq_true, if_false, dataOf_dataEv]
      rw [ih { p with type := .length, length := n - s.length } (n - s.length) _ rfl rfl (by omega)]
      simp only [hc, List.take_append, List.drop_append, List.take_of_length_le (Nat.le_of_not_le hle),
        List.drop_eq_nil_of_le (Nat.le_of_not_le hle), List.nil_append, List.append_assoc]

theorem untilClose_run (cfg : Http.Cfg) (segs : List Bytes) (p : Http.PState) (acc : Bytes)
    (ht : p.type = .untilEof) : payloadRun cfg p segs acc = (acc ++ segs.flatten, none) := by
  induction segs generalizing acc with
  | nil => simp [payloadRun]
  | cons s ss ih =>
    unfold payloadRun Http.payloadFeed
    simp only [ht]
    rw [ih, dataOf_dataEv]
    simp

end Aio.C02
