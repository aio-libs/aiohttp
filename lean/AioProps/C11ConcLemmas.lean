import AioModel.C11Conc
import AioProps.Basics
/-! Invariant of the lock/executor scheduling model of C11. -/
namespace Aio.C11.Conc

/-- the waiter's future is done with a result (so `Lock.acquire`'s fast path is closed) -/
def wok (w : Waiter) : Bool := w.st = .woken || w.st = .wokenCancel

structure Inv (s : S) : Prop where
  /-- compress order = wire order, plus the one message whose compression is in flight -/
  order : s.compLog = s.wire ++ s.inExec.toList
  /-- the executor job belongs to the lock holder -/
  execLocked : s.inExec.isSome → s.locked = true
  /-- while the lock is held nobody has been handed it -/
  noWoken : s.locked = true → ∀ w ∈ s.waiters, wok w = false
  /-- a hand-over only ever goes to the head of the queue -/
  wokenHead : ∀ w ∈ s.waiters.tail, wok w = false

theorem inv_init : Inv {} := ⟨rfl, by simp, by simp, by simp⟩

theorem inExec_none_of_unlocked {s : S} (h : Inv s) (hl : s.locked = false) : s.inExec = none := by
  cases he : s.inExec with
  | none => rfl
  | some t => have := h.execLocked (by simp [he]); simp [hl] at this

theorem wakeFirst_inv {s : S} (h : Inv s) (hl : s.locked = false) : Inv (wakeFirst s) ∧ (wakeFirst s).locked = false := by
  fun_cases wakeFirst s
  case case1 w ws hw _ =>
    exact ⟨⟨h.order, h.execLocked, fun hh => absurd (hl.symm.trans hh) Bool.false_ne_true,
      fun x hx => h.wokenHead x (by rw [hw]; exact hx)⟩, hl⟩
  case case2 | case3 => exact ⟨h, hl⟩

theorem holdAndGo_inv {s : S} (h : Inv s) (hl : s.locked = false) (hnw : ∀ w ∈ s.waiters, wok w = false)
    (t : Nat) (k : Kind) : Inv (holdAndGo s t k) := by
  have hne := inExec_none_of_unlocked h hl
  unfold holdAndGo
  cases k with
  | exec =>
    exact ⟨by simp [h.order, hne], by simp, fun _ => hnw, h.wokenHead⟩
  | plain | sync =>
    apply (wakeFirst_inv _ rfl).1
    exact ⟨by simp [h.order, hne], by simp [hne], by simp, h.wokenHead⟩

theorem enqueue_inv {s : S} (h : Inv s) (w : Waiter) (hw : wok w = false) :
    Inv { s with waiters := s.waiters ++ [w] } := by
  refine ⟨h.order, h.execLocked, fun hl x hx => ?_, fun x hx => ?_⟩
  · rcases List.mem_append.mp hx with hx | hx
    · exact h.noWoken hl x hx
    · cases List.mem_singleton.mp hx; exact hw
  · cases hws : s.waiters with
    | nil => rw [hws] at hx; cases hx
    | cons a r =>
      rw [hws] at hx
      rcases List.mem_append.mp hx with hx | hx
      · exact h.wokenHead x (hws ▸ hx)
      · cases List.mem_singleton.mp hx; exact hw

theorem startStep_inv {s : S} (h : Inv s) (t : Nat) (k : Kind) : Inv (startStep s t k) := by
  fun_cases startStep s t k
  case case1 => exact ⟨h.order, h.execLocked, h.noWoken, h.wokenHead⟩
  case case2 hc _ =>
    refine holdAndGo_inv h (by simpa using hc.1) (fun w hw => ?_) t k
    have := List.all_eq_true.mp hc.2 w hw
    simp at this; simp [wok, this]
  case case3 => exact enqueue_inv h _ rfl

theorem removeWaiter_mem {ws : List Waiter} {t : Nat} {w : Waiter} (h : w ∈ removeWaiter ws t) : w ∈ ws := by
  fun_induction removeWaiter ws t with
  | case1 => exact h
  | case2 a r hc => exact List.mem_cons_of_mem _ h
  | case3 a r hc ih =>
    rcases List.mem_cons.mp h with rfl | h
    · exact List.mem_cons_self ..
    · exact List.mem_cons_of_mem _ (ih h)

theorem removeWaiter_tail_mem {ws : List Waiter} {t : Nat} {w : Waiter}
    (h : w ∈ (removeWaiter ws t).tail) : w ∈ ws.tail := by
  cases ws with
  | nil => simp [removeWaiter] at h
  | cons a r =>
    simp only [removeWaiter] at h
    split at h
    · simp; exact List.mem_of_mem_tail h
    · simp at h ⊢; exact removeWaiter_mem h

theorem find_wok_is_head {ws : List Waiter} {t : Nat} {w : Waiter}
    (hd : ∀ x ∈ ws.tail, wok x = false) (hf : ws.find? (fun x => x.id = t) = some w) (hw : wok w = true) :
    removeWaiter ws t = ws.tail := by
  cases ws with
  | nil => simp at hf
  | cons a r =>
    simp only [List.find?] at hf
    split at hf
    · next ha => simp at ha; simp [removeWaiter, ha]
    · have hm : w ∈ r := List.mem_of_find?_eq_some hf
      have := hd w (by simpa using hm)
      rw [this] at hw; cases hw

theorem finishExec_inv {s : S} (h : Inv s) (t : Nat) (he : s.inExec = some t) : Inv (finishExec s t) := by
  unfold finishExec
  apply (wakeFirst_inv _ rfl).1
  exact ⟨by simp [h.order, he], by simp, by simp, h.wokenHead⟩

theorem runTask_inv {s : S} (h : Inv s) (t : Nat) : Inv (runTask s t) := by
  have hfr : Inv { s with fresh := s.fresh.filter (fun g => g.id ≠ t) } :=
    ⟨h.order, h.execLocked, h.noWoken, h.wokenHead⟩
  have hrm : Inv { s with waiters := removeWaiter s.waiters t } :=
    ⟨h.order, h.execLocked, fun hl x hx => h.noWoken hl x (removeWaiter_mem hx),
     fun x hx => h.wokenHead x (removeWaiter_tail_mem hx)⟩
  -- 1-2: first step of a fresh task (cancelled or not); 3-6: a waiter (pending; woken; cancelled with
  -- the lock free, held); 7: its executor job is done; 8: nothing to run
  fun_cases runTask s t
  case case1 => exact hfr
  case case2 => exact startStep_inv hfr t _
  case case3 | case8 => exact h
  case case4 _ w hf hst =>
    -- a woken waiter is the head of the queue, and the lock is free
    have hwk : wok w = true := by simp [wok, hst]
    have hl : s.locked = false := by
      cases hlk : s.locked with
      | false => rfl
      | true => rw [h.noWoken hlk w (List.mem_of_find?_eq_some hf)] at hwk; cases hwk
    refine holdAndGo_inv hrm hl (fun x hx => ?_) t w.kind
    exact h.wokenHead x (find_wok_is_head h.wokenHead hf hwk ▸ hx)
  case case5 hl _ _ => exact (wakeFirst_inv hrm (by simpa using hl)).1
  case case6 => exact hrm
  case case7 hc => exact finishExec_inv h t hc.1

theorem cancelWaiter_wok (ws : List Waiter) (t : Nat) : (cancelWaiter ws t).1.map wok = ws.map wok := by
  fun_induction cancelWaiter ws t with
  | case1 | case4 | case5 => rfl
  | case2 w r _ _ hst | case3 w r _ _ hst => exact congrArg (· :: r.map wok) (by simp [wok, hst])
  | case6 w r _ r' b e ih => rw [e] at ih; exact congrArg (wok w :: ·) ih

theorem not_wok_of_map_eq {l l' : List Waiter} (e : l'.map wok = l.map wok)
    (h : ∀ w ∈ l, wok w = false) : ∀ w ∈ l', wok w = false := by
  intro w' hw'
  have := List.mem_map_of_mem (f := wok) hw'
  rw [e] at this
  obtain ⟨w, hw, he⟩ := List.mem_map.mp this
  exact he ▸ h w hw

theorem step_inv {s : S} (h : Inv s) (l : Label) : Inv (step s l) := by
  -- 1: spawn; 2-3: cancel (fresh task, waiter); 4-6: execDone; 7: tick
  fun_cases step s l
  case case1 | case2 | case5 => exact ⟨h.order, h.execLocked, h.noWoken, h.wokenHead⟩
  case case4 | case6 => exact h
  case case3 t _ ws b e =>
    have hw : ws.map wok = s.waiters.map wok := by rw [← cancelWaiter_wok s.waiters t, e]
    refine ⟨h.order, h.execLocked, fun hl => not_wok_of_map_eq hw (h.noWoken hl), not_wok_of_map_eq ?_ h.wokenHead⟩
    show ws.tail.map wok = _
    rw [List.map_tail, List.map_tail, hw]
  case case7 =>
    exact foldl_inv Inv _ _ _ (fun _ a _ h => runTask_inv h a) ⟨h.order, h.execLocked, h.noWoken, h.wokenHead⟩

theorem run_inv (ls : List Label) : ∀ s, Inv s → Inv (run s ls) :=
  fun s => foldl_inv Inv _ ls s fun _ l _ h => step_inv h l

end Aio.C11.Conc
