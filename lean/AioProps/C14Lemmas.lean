import AioModel.C14
/-!
# C14 — helper lemmas (string helpers, the index walk, scanning answers, positions in the resource list)
-/
namespace Aio.C14
open Aio

/-- `k` is `p` itself or a proper prefix of `p` that ends right before a `/` -/
def Anc (k p : Str) : Prop := k = p ∨ ∃ rest, p = k ++ SL :: rest

theorem Anc.refl (p : Str) : Anc p p := Or.inl rfl

theorem Anc.trans {a b c : Str} (h1 : Anc a b) (h2 : Anc b c) : Anc a c := by
  rcases h1 with rfl | ⟨r1, rfl⟩
  · exact h2
  · rcases h2 with rfl | ⟨r2, rfl⟩
    · exact Or.inr ⟨r1, rfl⟩
    · exact Or.inr ⟨r1 ++ SL :: r2, by simp⟩

theorem Anc.cons {k p : Str} (c : Nat) (h : Anc k p) : Anc (c :: k) (c :: p) := by
  rcases h with rfl | ⟨r, rfl⟩
  · exact Or.inl rfl
  · exact Or.inr ⟨r, rfl⟩

theorem Anc.prefix {k p : Str} (h : Anc k p) : k <+: p := by
  rcases h with rfl | ⟨r, rfl⟩
  · exact List.prefix_refl _
  · exact List.prefix_append _ _

theorem Anc.length_le {k p : Str} (h : Anc k p) : k.length ≤ p.length := h.prefix.length_le

def StartsSL (p : Str) : Prop := p.head? = some SL

theorem startsSL_ne_nil {p : Str} (h : StartsSL p) : p ≠ [] := by
  intro e; simp [StartsSL, e] at h

theorem rpHead_append_slash (k rest : Str) :
    rpHead (k ++ SL :: rest) = if rest.contains SL then k ++ SL :: rpHead rest else k := by
  induction k with
  | nil => simp [rpHead]
  | cons c k ih =>
    have : (k ++ SL :: rest).contains SL = true := by simp
    simp only [List.cons_append, rpHead, this, if_true, ih]
    split <;> simp

theorem rpHead_nocontains (s : Str) (h : s.contains SL = false) : rpHead s = [] := by
  fun_induction rpHead s
  case case1 => rfl
  case case2 c t ht _ =>
    rw [List.contains_cons, ht, Bool.or_true] at h
    cases h
  case case3 => rfl

theorem rpHead_spec (s : Str) (h : s.contains SL = true) : ∃ tl, s = rpHead s ++ SL :: tl := by
  fun_induction rpHead s
  case case1 => simp at h
  case case2 c t ht ih =>
    obtain ⟨tl, htl⟩ := ih ht
    exact ⟨tl, congrArg (c :: ·) htl⟩
  case case3 c t ht =>
    have hm : SL ∉ t := by simpa using ht
    have hc : c = SL := by simpa [hm, eq_comm] using h
    exact ⟨t, by rw [hc]; rfl⟩

theorem rpHead_length_lt (s : Str) (h : s ≠ []) : (rpHead s).length < s.length := by
  fun_induction rpHead s
  case case1 => exact absurd rfl h
  case case2 c t ht ih =>
    have := ih (by intro e; simp [e] at ht)
    simp; omega
  case case3 => simp

theorem anc_rstrip (s : Str) : Anc (rstripSlash s) s := by
  fun_induction rstripSlash s
  case case1 => exact Or.inl rfl
  case case2 t _ _ => exact Or.inr ⟨t, rfl⟩
  case case3 c t hr _ ih => exact (hr ▸ ih).cons c
  case case4 c t _ ih => exact ih.cons c

theorem parent_startsSL {p : Str} (h : StartsSL p) : StartsSL (parent p) := by
  obtain ⟨t, rfl⟩ := List.head?_eq_some_iff.mp h
  unfold parent rpHead
  split <;> exact rfl

theorem parent_length_lt {p : Str} (h : StartsSL p) (hne : p ≠ [SL]) : (parent p).length < p.length := by
  unfold parent orSlash
  split
  · obtain ⟨t, rfl⟩ := List.head?_eq_some_iff.mp h
    cases t with
    | nil => exact absurd rfl hne
    | cons d t' => simp
  · exact rpHead_length_lt p (startsSL_ne_nil h)

theorem orSlash_of_ne_nil {s : Str} (h : s ≠ []) : orSlash s = s := by
  cases s with
  | nil => exact absurd rfl h
  | cons c t => rfl

theorem parent_cases (p : Str) : parent p = [SL] ∨ Anc (parent p) p := by
  unfold parent
  cases hc : p.contains SL with
  | false => rw [rpHead_nocontains p hc]; exact Or.inl rfl
  | true =>
    by_cases hr : rpHead p = []
    · rw [hr]; exact Or.inl rfl
    · rw [orSlash_of_ne_nil hr]; exact Or.inr (Or.inr (rpHead_spec p hc))

theorem anc_parent_append {k : Str} (rest : Str) (hk : k ≠ []) : Anc k (parent (k ++ SL :: rest)) := by
  unfold parent
  rw [rpHead_append_slash]
  split
  · rw [orSlash_of_ne_nil (by simp)]; exact Or.inr ⟨rpHead rest, rfl⟩
  · rw [orSlash_of_ne_nil hk]; exact Or.inl rfl

theorem anc_singleton {k : Str} (hk : k ≠ []) (h : Anc k [SL]) : k = [SL] := by
  rcases h with h | ⟨r, h⟩
  · exact h
  · cases k with
    | nil => exact absurd rfl hk
    | cons c k' => simp at h

theorem mem_walkAux_iff (f : Nat) (p k : Str) (hp : StartsSL p) (hf : p.length ≤ f) :
    k ∈ walkAux f p ↔ k = [SL] ∨ (k ≠ [] ∧ Anc k p) := by
  induction f generalizing p with
  | zero => exact absurd (List.eq_nil_of_length_eq_zero (by omega)) (startsSL_ne_nil hp)
  | succ f ih =>
    simp only [walkAux]
    split
    · next e =>
      subst e
      simp only [List.mem_singleton]
      exact ⟨Or.inl, fun h => h.elim id (fun h => anc_singleton h.1 h.2)⟩
    · next hne =>
      rw [List.mem_cons, ih (parent p) (parent_startsSL hp) (by have := parent_length_lt hp hne; omega)]
      constructor
      · rintro (rfl | h | ⟨hk, h⟩)
        · exact Or.inr ⟨startsSL_ne_nil hp, Anc.refl _⟩
        · exact Or.inl h
        · rcases parent_cases p with e | ha
          · exact Or.inl (anc_singleton hk (e ▸ h))
          · exact Or.inr ⟨hk, h.trans ha⟩
      · rintro (h | ⟨hk, rfl | ⟨rest, rfl⟩⟩)
        · exact Or.inr (Or.inl h)
        · exact Or.inl rfl
        · exact Or.inr (Or.inr ⟨hk, anc_parent_append rest hk⟩)

theorem walkAux_length_le (f : Nat) (p k : Str) (hp : StartsSL p) (hf : p.length ≤ f)
    (hk : k ∈ walkAux f p) : k.length ≤ p.length := by
  rcases (mem_walkAux_iff f p k hp hf).mp hk with rfl | ⟨_, h⟩
  · obtain ⟨t, rfl⟩ := List.head?_eq_some_iff.mp hp
    simp
  · exact h.length_le

theorem walkAux_pairwise (f : Nat) (p : Str) (hp : StartsSL p) (hf : p.length ≤ f) :
    (walkAux f p).Pairwise (fun a b => b.length < a.length) := by
  induction f generalizing p with
  | zero => simp [walkAux]
  | succ f ih =>
    simp only [walkAux]
    split
    · simp
    · next hne =>
      have hlt := parent_length_lt hp hne
      refine List.pairwise_cons.mpr ⟨?_, ih (parent p) (parent_startsSL hp) (by omega)⟩
      intro k hk
      have := walkAux_length_le f _ k (parent_startsSL hp) (by omega) hk
      omega

theorem walk_eq {p : Str} (hp : StartsSL p) : walk p = walkAux (p.length + 1) p := by
  obtain ⟨t, rfl⟩ := List.head?_eq_some_iff.mp hp
  rfl

theorem mem_walk_iff {p k : Str} (hp : StartsSL p) : k ∈ walk p ↔ k = [SL] ∨ (k ≠ [] ∧ Anc k p) := by
  rw [walk_eq hp]; exact mem_walkAux_iff _ p k hp (by omega)

theorem orSlash_mem_walk {p k : Str} (hp : StartsSL p) (ha : Anc k p) : orSlash k ∈ walk p := by
  unfold orSlash
  cases k with
  | nil => exact (mem_walk_iff hp).mpr (Or.inl rfl)
  | cons c k' => exact (mem_walk_iff hp).mpr (Or.inr ⟨by simp, ha⟩)

theorem walk_length_le {p k : Str} (hp : StartsSL p) (hk : k ∈ walk p) : k.length ≤ p.length := by
  rw [walk_eq hp] at hk; exact walkAux_length_le _ p k hp (by omega) hk

theorem walk_pairwise {p : Str} (hp : StartsSL p) :
    (walk p).Pairwise (fun a b => b.length < a.length) := by
  rw [walk_eq hp]; exact walkAux_pairwise _ p hp (by omega)

theorem key_of_prefix {p b : Str} (hp : StartsSL p) (h : b <+: p) :
    orSlash (rstripSlash (rpHead b)) ∈ walk p := by
  obtain ⟨r, rfl⟩ := h
  cases hc : b.contains SL with
  | false =>
    rw [rpHead_nocontains b hc]
    exact (mem_walk_iff hp).mpr (Or.inl rfl)
  | true =>
    obtain ⟨tl, htl⟩ := rpHead_spec b hc
    exact orSlash_mem_walk hp ((anc_rstrip _).trans
      (Or.inr ⟨tl ++ r, (congrArg (· ++ r) htl).trans (List.append_assoc ..)⟩))

theorem indexKey_mem_walk {p c : Str} (hp : StartsSL p) (ha : Anc c p) : indexKey c ∈ walk p := by
  unfold indexKey
  split
  · exact key_of_prefix hp ((List.takeWhile_prefix _).trans ha.prefix)
  · exact orSlash_mem_walk hp ((anc_rstrip c).trans ha)

theorem isPrefix_spec (l s : Str) (h : isPrefix l s = true) : s = l ++ s.drop l.length := by
  induction l generalizing s with
  | nil => simp
  | cons a l ih =>
    cases s with
    | nil => simp [isPrefix] at h
    | cons b s =>
      simp only [isPrefix, Bool.and_eq_true, beq_iff_eq] at h
      obtain ⟨rfl, h2⟩ := h
      simp only [List.cons_append, List.length_cons, List.drop_succ_cons]
      exact congrArg _ (ih s h2)

theorem isPrefix_append_self (l r : Str) : isPrefix l (l ++ r) = true := by
  induction l with
  | nil => cases r <;> simp [isPrefix]
  | cons a l ih => simp [isPrefix, ih]

theorem underPrefix_iff_anc {pfx p : Str} : underPrefix pfx p = true ↔ Anc pfx p := by
  simp only [underPrefix, Bool.or_eq_true, beq_iff_eq]
  refine or_congr eq_comm ⟨fun h => ?_, ?_⟩
  · have := isPrefix_spec _ _ h
    exact ⟨p.drop (pfx ++ [SL]).length, by rw [this]; simp⟩
  · rintro ⟨r, rfl⟩
    simpa using isPrefix_append_self (pfx ++ [SL]) r

theorem tryLen_some {k : Str → Option Dict} {name s : Str} {mn n : Nat} {d : Dict}
    (h : tryLen k name s mn n = some d) : ∃ j d', k (s.drop j) = some d' := by
  fun_induction tryLen k name s mn n
  case case1 =>
    cases hk : k s with
    | none => simp [hk] at h
    | some d' => exact ⟨0, d', by simpa using hk⟩
  case case2 => cases h
  case case3 => cases h
  case case4 n _ d' hd => exact ⟨n + 1, d', hd⟩
  case case5 ih => exact ih h

theorem match_formatter_prefix (ps : List Part) (p : Str) (d : Dict) (h : matchFrom ps p = some d) :
    beforeBrace (formatter ps) <+: p ∧ ((formatter ps).contains LB = false → formatter ps = p) := by
  fun_induction matchFrom ps p generalizing d
  case case1 s he => exact ⟨List.nil_prefix, fun _ => (List.isEmpty_iff.mp he).symm⟩
  case case2 => cases h
  case case3 l ps s hp ih =>
    obtain ⟨hpre, hall⟩ := ih d h
    rw [isPrefix_spec l s hp]
    refine ⟨?_, fun hc => ?_⟩
    · simp only [formatter, beforeBrace, List.takeWhile_append]
      split
      · exact (List.prefix_append_right_inj l).mpr hpre
      · exact (List.takeWhile_prefix _).trans (List.prefix_append _ _)
    · simp only [formatter, List.contains_append, Bool.or_eq_false_iff] at hc
      rw [formatter, hall hc.2]
  case case4 => cases h
  case case5 => exact ⟨by simp [formatter, beforeBrace], fun hc => by simp [formatter] at hc⟩

theorem dyn_key_mem_walk {ps : List Part} {p : Str} {d : Dict} (hp : StartsSL p)
    (h : matchFrom ps p = some d) : indexKey (formatter ps) ∈ walk p := by
  obtain ⟨hpre, hall⟩ := match_formatter_prefix ps p d h
  unfold indexKey
  split
  · exact key_of_prefix hp hpre
  · next hc =>
    rw [hall (Bool.eq_false_iff.mpr hc)]
    exact orSlash_mem_walk hp (anc_rstrip p)

theorem ansRoutes_none (rts : Routes) (m : Str) : ansRoutes rts none m = .pass [] := rfl

/-- **index_complete.** A resource that the documented rule lets answer anything but
"no match, no methods" is indexed under a key that the walk `path, parent(path), …, "/"` visits. -/
theorem index_complete (rec : Table → Req → Result) (r : Res) (q : Req)
    (hp : StartsSL q.path) (hd : isDom r = false) (h : ansSpecWith rec r q ≠ .pass []) :
    keyOf r ∈ walk q.path := by
  cases r with
  | plain p rts =>
    cases he : p == q.path with
    | false => simp [ansSpecWith, ansLeaf, he, ansRoutes_none] at h
    | true => exact indexKey_mem_walk hp (Or.inl (beq_iff_eq.mp he))
  | dyn o ps rts =>
    cases hm : matchFrom ps q.path with
    | none => simp [ansSpecWith, ansLeaf, dynMatch, hm, ansRoutes_none] at h
    | some d => exact dyn_key_mem_walk hp hm
  | static pfx _ | sub pfx _ =>
    cases hu : underPrefix pfx q.path with
    | false => simp [ansSpecWith, hu] at h
    | true => exact indexKey_mem_walk hp (underPrefix_iff_anc.mp hu)
  | dom rule t => simp [isDom] at hd

def inert : Ans → Bool
  | .pass [] => true
  | _ => false

def dropInert (l : List Ans) : List Ans := l.filter (fun a => !inert a)

theorem inert_iff (a : Ans) : inert a = true ↔ a = .pass [] := by
  cases a with
  | final r => simp [inert]
  | pass l => cases l <;> simp [inert]

theorem combine_dropInert (l : List Ans) (acc : List Str) : combine (dropInert l) acc = combine l acc := by
  induction l generalizing acc with
  | nil => rfl
  | cons a l ih =>
    match a with
    | .final r => rfl
    | .pass [] => exact (ih acc).trans (congrArg (combine l) (List.append_nil acc).symm)
    | .pass (x :: xs) => exact ih _

theorem dropInert_append (a b : List Ans) : dropInert (a ++ b) = dropInert a ++ dropInert b := by simp [dropInert]

theorem dropInert_filter_map_congr (rs : List Res) (P Q : Res → Bool) (a : Res → Ans)
    (h1 : ∀ r ∈ rs, P r = true → Q r = true)
    (h2 : ∀ r ∈ rs, Q r = true → P r = false → a r = .pass []) :
    dropInert ((rs.filter P).map a) = dropInert ((rs.filter Q).map a) := by
  simp only [dropInert, List.filter_map, List.filter_filter]
  congr 1
  apply List.filter_congr
  intro r hr
  have h1 := h1 r hr
  have h2 := h2 r hr
  cases hP : P r <;> cases hQ : Q r
  · rfl
  · simp only [Function.comp, h2 hQ hP]; rfl
  · rw [h1 hP] at hQ; cases hQ
  · rfl

theorem dropInert_all_inert (rs : List Res) (Q : Res → Bool) (a : Res → Ans)
    (h : ∀ r ∈ rs, Q r = true → a r = .pass []) : dropInert ((rs.filter Q).map a) = [] := by
  have := dropInert_filter_map_congr rs (fun _ => false) Q a (by simp) (fun r hr hq _ => h r hr hq)
  rw [← this]; simp [dropInert]

theorem mem_descFrom (n m : Nat) : m ∈ descFrom n ↔ m < n := by
  induction n with
  | zero => simp [descFrom]
  | succ n ih => simp only [descFrom, List.mem_cons, ih]; omega

/-- scanning the buckets of a strictly shortening key chain `W` = scanning all depths downwards,
provided every resource whose key is not on the chain is inert -/
theorem scan_eq (rs : List Res) (key : Res → Str) (dom : Res → Bool) (a : Res → Ans) (n : Nat)
    (W : List Str) (hpw : W.Pairwise (fun x y => y.length < x.length)) (hlen : ∀ k ∈ W, k.length < n)
    (hin : ∀ r ∈ rs, dom r = false → (key r).length < n → key r ∉ W → a r = .pass []) :
    dropInert (W.flatMap (fun k => (rs.filter (fun r => !dom r && key r == k)).map a)) =
    dropInert ((descFrom n).flatMap (fun m => (rs.filter (fun r => !dom r && (key r).length == m)).map a)) := by
  induction n generalizing W with
  | zero =>
    cases W with
    | nil => rfl
    | cons k W' => exact absurd (hlen k (List.mem_cons_self ..)) (Nat.not_lt_zero _)
  | succ n ih =>
    simp only [descFrom, List.flatMap_cons, dropInert_append]
    by_cases hall : ∀ k ∈ W, k.length < n
    · -- nothing on the chain has depth n: the depth-n bucket is inert
      have h0 : dropInert ((rs.filter (fun r => !dom r && (key r).length == n)).map a) = [] := by
        apply dropInert_all_inert
        intro r hr hq
        simp only [Bool.and_eq_true, Bool.not_eq_true', beq_iff_eq] at hq
        refine hin r hr hq.1 (by omega) ?_
        intro hm; have := hall _ hm; omega
      rw [h0, List.nil_append]
      exact ih W hpw hall (fun r hr hd hl hm => hin r hr hd (by omega) hm)
    · -- the head of the chain has depth exactly n
      cases W with
      | nil => exact absurd nofun hall
      | cons k W' =>
        obtain ⟨hkW', hpw'⟩ := List.pairwise_cons.mp hpw
        have hk : k.length = n := by
          have := hlen k (List.mem_cons_self ..)
          apply Classical.byContradiction
          intro hne
          refine hall fun k' hk' => ?_
          rcases List.mem_cons.mp hk' with rfl | hk'
          · omega
          · have := hkW' _ hk'; omega
        have hW' : ∀ k' ∈ W', k'.length < n := fun k' hk' => hk ▸ hkW' k' hk'
        have hb : dropInert ((rs.filter (fun r => !dom r && key r == k)).map a) =
            dropInert ((rs.filter (fun r => !dom r && (key r).length == n)).map a) := by
          apply dropInert_filter_map_congr
          · intro r _ hp
            simp only [Bool.and_eq_true, Bool.not_eq_true', beq_iff_eq] at hp ⊢
            exact ⟨hp.1, hp.2 ▸ hk⟩
          · intro r hr hq hp
            simp only [Bool.and_eq_true, Bool.not_eq_true', beq_iff_eq] at hq
            refine hin r hr hq.1 (by omega) fun hm => ?_
            rcases List.mem_cons.mp hm with e | hm
            · simp [hq.1, e] at hp
            · have := hW' _ hm; omega
        simp only [List.flatMap_cons, dropInert_append, hb]
        congr 1
        refine ih W' hpw' hW' fun r hr hd hl hm => hin r hr hd (by omega) fun hm' => ?_
        rcases List.mem_cons.mp hm' with e | hm'
        · rw [e] at hl; omega
        · exact hm hm'

/-- positions of the resources satisfying `P` -/
def positions (P : Res → Bool) (rs : List Res) : List Nat :=
  (List.range rs.length).filter (fun i => match rs[i]? with | some r => P r | none => false)

theorem positions_append_singleton (P : Res → Bool) (rs : List Res) (r : Res) :
    positions P (rs ++ [r]) = positions P rs ++ (if P r then [rs.length] else []) := by
  unfold positions
  rw [List.length_append, List.length_singleton, List.range_succ, List.filter_append]
  congr 1
  · apply List.filter_congr
    intro i hi
    have hi' : i < rs.length := List.mem_range.mp hi
    rw [List.getElem?_append_left hi']
  · simp only [List.filter_cons, List.filter_nil, List.getElem?_concat_length]

theorem atPositions_append_left (rs rs' : List Res) (is : List Nat) (h : ∀ i ∈ is, i < rs.length) :
    atPositions (rs ++ rs') is = atPositions rs is := by
  induction is with
  | nil => rfl
  | cons i is ih =>
    simp only [atPositions, List.filterMap_cons, List.getElem?_append_left (h i (List.mem_cons_self ..))]
    rw [show List.filterMap _ is = _ from ih fun j hj => h j (List.mem_cons_of_mem _ hj)]
    rfl

theorem atPositions_positions (P : Res → Bool) (rs : List Res) :
    atPositions rs (positions P rs) = rs.filter P := by
  generalize hn : rs.length = n
  induction n generalizing rs with
  | zero => rw [List.eq_nil_of_length_eq_zero hn]; rfl
  | succ n ih =>
    obtain ⟨L, b, rfl⟩ := (List.eq_nil_or_concat rs).resolve_left (by intro e; simp [e] at hn)
    rw [List.concat_eq_append] at hn ⊢
    rw [positions_append_singleton, List.filter_append, ← ih L (by simpa using hn)]
    unfold atPositions
    rw [List.filterMap_append]
    congr 1
    · exact atPositions_append_left L [b] _ fun i hi => List.mem_range.mp (List.mem_filter.mp hi).1
    · cases hb : P b <;> simp [hb]

theorem positions_congr {κ} (key : Res → κ) (g : κ → Bool) (rs rs' : List Res)
    (h : rs.map key = rs'.map key) :
    positions (fun r => g (key r)) rs = positions (fun r => g (key r)) rs' := by
  have e : ∀ l : List Res, positions (fun r => g (key r)) l =
      (List.range (l.map key).length).filter (fun i => ((l.map key)[i]?.map g).getD false) := by
    intro l
    unfold positions
    rw [List.length_map]
    congr 1
    funext i
    rw [List.getElem?_map]
    cases l[i]? <;> rfl
  rw [e, e, h]

theorem bucketOf_cons (e : Str × List Nat) (es : List (Str × List Nat)) (k : Str) :
    bucketOf (e :: es) k = if e.1 = k then e.2 else bucketOf es k := by
  simp only [bucketOf, List.find?_cons]
  by_cases h : e.1 = k
  · rw [if_pos h, beq_iff_eq.mpr h]
  · rw [if_neg h, beq_eq_false_iff_ne.mpr h]

theorem bucketOf_indexAdd (idx : List (Str × List Nat)) (k k' : Str) (i : Nat) :
    bucketOf (indexAdd idx k i) k' = if k' = k then bucketOf idx k' ++ [i] else bucketOf idx k' := by
  induction idx with
  | nil => simp only [indexAdd, bucketOf_cons, eq_comm (a := k)]; rfl
  | cons e es ih =>
    simp only [indexAdd, beq_iff_eq]
    by_cases he : e.1 = k
    · subst he
      simp only [if_true, bucketOf_cons, eq_comm (a := k')]
      split <;> rfl
    · simp only [he, if_false, bucketOf_cons, ih]
      by_cases h : e.1 = k'
      · rw [if_pos h, if_pos h, if_neg (h ▸ he)]
      · rw [if_neg h, if_neg h]
end Aio.C14
