import AioProps.HttpLemmas
/-!
# C03 — segmentation independence: the laws the resumable parser rests on

Model: `AioModel/Http.lean`.  The parser keeps the unconsumed tail between reads and re-scans
`tail ++ data`.  Its outcome is independent of where the reads were cut provided
(1) a separator found in a prefix is found at the same place in every extension,
(2) the *early* checks made on a buffered partial line only reject what the check on the
    completed line would reject as well (findings F1–F3), and
(3) body bytes are delivered compositionally.
These are proved here for all byte strings and limits; that the code computes the same
function as the model at *every* cut is what the correspondence run validates.
-/
namespace Aio.Http
open Aio

/-! ### (1) separators are stable under extension -/

theorem findCRLF_append_stable (a b : Bytes) (p : Nat) (h : findCRLF a = some p) :
    findCRLF (a ++ b) = some p := by
  fun_induction findCRLF a generalizing p with
  | case1 => cases h
  | case2 => cases h
  | case3 x y t hc => rw [List.cons_append, List.cons_append, findCRLF, if_pos hc]; exact h
  | case4 x y t hc ih =>
    obtain ⟨q, hq, rfl⟩ := Option.map_eq_some_iff.mp h
    rw [List.cons_append, List.cons_append, findCRLF, if_neg hc, ← List.cons_append, ih q hq]; rfl

theorem findByte_append_stable (c : UInt8) (a b : Bytes) (p : Nat) (h : findByte c a = some p) :
    findByte c (a ++ b) = some p := by
  fun_induction findByte c a generalizing p with
  | case1 => cases h
  | case2 t => rw [List.cons_append, findByte, if_pos rfl]; exact h
  | case3 x t hc ih =>
    obtain ⟨q, hq, rfl⟩ := Option.map_eq_some_iff.mp h
    rw [List.cons_append, findByte, if_neg hc, ih q hq]; rfl

theorem findCRLF_get (a : Bytes) (p : Nat) (h : findCRLF a = some p) : a[p + 1]? = some 10 := by
  fun_induction findCRLF a generalizing p with
  | case1 => cases h
  | case2 => cases h
  | case3 x y t hc => cases h; rw [hc.2]; rfl
  | case4 x y t hc ih =>
    obtain ⟨q, hq, rfl⟩ := Option.map_eq_some_iff.mp h
    exact ih q hq

theorem findCRLF_split (a : Bytes) (p : Nat) (h : findCRLF a = some p) :
    ∃ line r, a = line ++ 13 :: 10 :: r ∧ findCRLF line = none ∧ a.take p = line ∧ a.drop (p + 2) = r := by
  suffices a = a.take p ++ 13 :: 10 :: a.drop (p + 2) ∧ findCRLF (a.take p) = none from
    ⟨_, _, this.1, this.2, rfl, rfl⟩
  fun_induction findCRLF a generalizing p with
  | case1 => cases h
  | case2 => cases h
  | case3 x y t hx => cases h; rw [hx.1, hx.2]; exact ⟨rfl, rfl⟩
  | case4 x y t hx ih =>
    obtain ⟨q, hq, rfl⟩ := Option.map_eq_some_iff.mp h
    obtain ⟨e, hn⟩ := ih q hq
    refine ⟨by rw [List.take_succ_cons, List.drop_succ_cons, List.cons_append, ← e], ?_⟩
    cases q with
    | zero => rfl
    | succ q' =>
      rw [List.take_succ_cons] at hn
      rw [List.take_succ_cons, List.take_succ_cons, findCRLF, if_neg hx, hn]
      rfl

theorem findByte_get (c : UInt8) (a : Bytes) (p : Nat) (h : findByte c a = some p) : a[p]? = some c := by
  fun_induction findByte c a generalizing p with
  | case1 => cases h
  | case2 t => cases h; rfl
  | case3 x t hc ih =>
    obtain ⟨q, hq, rfl⟩ := Option.map_eq_some_iff.mp h
    exact ih q hq

theorem findSep_get (lax : Bool) (a : Bytes) (p : Nat) (h : findSep lax a = some p) :
    a[p + sepLen lax - 1]? = some 10 := by
  cases lax
  · exact findCRLF_get a p h
  · exact findByte_get 10 a p h

theorem sepLen_pos (lax : Bool) : 1 ≤ sepLen lax := by unfold sepLen; split <;> omega

theorem findSep_bound (lax : Bool) (a : Bytes) (p : Nat) (h : findSep lax a = some p) :
    p + sepLen lax ≤ a.length := by
  have := (List.getElem?_eq_some_iff.mp (findSep_get lax a p h)).1
  have := sepLen_pos lax
  omega

theorem findSep_append_stable (lax : Bool) (a b : Bytes) (p : Nat) (h : findSep lax a = some p) :
    findSep lax (a ++ b) = some p := by
  cases lax
  · exact findCRLF_append_stable a b p h
  · exact findByte_append_stable 10 a b p h

theorem findByte_none_append (c : UInt8) (a b : Bytes) (p : Nat) (hn : findByte c a = none)
    (h : findByte c (a ++ b) = some p) : a.length ≤ p := by
  fun_induction findByte c a generalizing p with
  | case1 => exact Nat.zero_le _
  | case2 t => cases hn
  | case3 x t hc ih =>
    rw [List.cons_append, findByte, if_neg hc] at h
    obtain ⟨q, hq, rfl⟩ := Option.map_eq_some_iff.mp h
    exact Nat.succ_le_succ (ih q (Option.map_eq_none_iff.mp hn) hq)

/-- if no CRLF was found in `a`, one found in `a ++ b` starts at the last byte of `a` (which is
then a CR) or later -/
theorem findCRLF_none_append (a b : Bytes) (p : Nat) (hn : findCRLF a = none)
    (h : findCRLF (a ++ b) = some p) :
    (p + 1 = a.length ∧ a.getLast? = some 13) ∨ a.length ≤ p := by
  fun_induction findCRLF a generalizing p with
  | case1 => exact .inr (Nat.zero_le _)
  | case2 x =>
    cases b with
    | nil => cases h
    | cons y b' =>
      rw [List.cons_append, List.nil_append, findCRLF] at h
      split at h
      · next hc => cases h; exact .inl ⟨rfl, by rw [hc.1]; rfl⟩
      · obtain ⟨q, _, rfl⟩ := Option.map_eq_some_iff.mp h; exact .inr (Nat.succ_le_succ (Nat.zero_le _))
  | case3 => cases hn
  | case4 x y t hc ih =>
    rw [List.cons_append, List.cons_append, findCRLF, if_neg hc] at h
    obtain ⟨q, hq, rfl⟩ := Option.map_eq_some_iff.mp h
    refine (ih q (Option.map_eq_none_iff.mp hn) hq).imp (fun ⟨h1, h2⟩ => ⟨congrArg (· + 1) h1, ?_⟩) Nat.succ_le_succ
    rw [List.getLast?_cons_cons]; exact h2
/-! ### (2) early rejection of a partial line implies rejection of the completed line -/

/-- **Strict mode (requests; findings F1-F3).** If the buffered partial line `a` (no CRLF yet)
fails the early length check against the limit `maxLen` in force for that line, then in every
continuation `a ++ b` the completed line — everything before the first CRLF — is longer than
`maxLen` too, so the late check rejects it as well.  (A trailing CR of `a` is not counted:
it may be the first half of the terminator.) -/
theorem tail_check_sound_strict (cfg : Cfg) (hs : cfg.lax = false) (a b : Bytes) (maxLen p : Nat)
    (hn : findCRLF a = none) (hearly : tailLen cfg a > maxLen)
    (hfound : findCRLF (a ++ b) = some p) :
    ((a ++ b).take p).length > maxLen := by
  have hp : p + 2 ≤ (a ++ b).length := findSep_bound false _ p hfound
  simp only [List.length_take, Nat.min_eq_left (Nat.le_of_add_right_le hp)]
  unfold tailLen at hearly
  rcases findCRLF_none_append a b p hn hfound with ⟨h1, h2⟩ | h2
  · simp [h2] at hearly; omega
  · split at hearly <;> omega

/-- **Lax mode (responses).** Same law for the LF-terminated reading, where a completed line is
measured as the raw line minus at most one trailing CR. -/
theorem tail_check_sound_lax (cfg : Cfg) (hl : cfg.lax = true) (a b : Bytes) (maxLen p : Nat)
    (hn : findByte 10 a = none) (hearly : tailLen cfg a > maxLen)
    (hfound : findByte 10 (a ++ b) = some p) :
    lineLen cfg ((a ++ b).take p) > maxLen := by
  have hge := findByte_none_append 10 a b p hn hfound
  unfold tailLen at hearly
  unfold lineLen
  simp only [hl, if_true]
  have htake : (a ++ b).take p = a ++ b.take (p - a.length) := by
    rw [List.take_append]; simp [List.take_of_length_le hge]
  rw [htake]
  generalize b.take (p - a.length) = c
  cases c with
  | nil => simpa using hearly
  | cons x xs =>
    have h1 : (a ++ x :: xs).length = a.length + xs.length + 1 := by simp; omega
    have h2 : a.length - (if a.getLast? == some 13 then 1 else 0) ≤ a.length := by omega
    rw [h1]
    split <;> omega

/-! ### (3) body bytes are delivered compositionally -/

/-- concatenation of the data events -/
def dataOf : List Ev → Bytes
  | [] => []
  | .data bs :: t => bs ++ dataOf t
  | _ :: t => dataOf t

theorem dataOf_app (a b : List Ev) : dataOf (a ++ b) = dataOf a ++ dataOf b := by
  induction a with
  | nil => rfl
  | cons e t ih => cases e <;> simp [dataOf, ih]

theorem dataOf_snoc_nodata (evs : List Ev) (e : Ev) (h : ∀ bs, e ≠ .data bs) : dataOf (evs ++ [e]) = dataOf evs := by
  rw [dataOf_app]
  cases e <;> simp [dataOf] <;> exact absurd rfl (h _)

theorem dataOf_dataEv (bs : Bytes) (rest : List Ev) : dataOf (dataEv bs ++ rest) = bs ++ dataOf rest := by
  unfold dataEv
  split
  · next h =>
    have hb : bs = [] := by simpa using h
    subst hb; simp
  · simp [dataOf]

theorem dataOf_dataEv' (bs : Bytes) : dataOf (dataEv bs) = bs := by
  have := dataOf_dataEv bs []
  rwa [List.append_nil, dataOf, List.append_nil] at this

theorem payloadFeed_length_cut (cfg : Cfg) (p : PState) (a b : Bytes) (ht : p.type = .length)
    (hlt : a.length < p.length) :
    payloadFeed cfg p a = (.needs { p with length := p.length - a.length }, dataEv a) ∧
    ∃ x t, payloadFeed cfg { p with length := p.length - a.length } b = ((payloadFeed cfg p (a ++ b)).1, dataEv x ++ t) ∧
      (payloadFeed cfg p (a ++ b)).2 = dataEv (a ++ x) ++ t := by
  have hle := Nat.le_of_lt hlt
  have tab : (a ++ b).take p.length = a ++ b.take (p.length - a.length) := by
    rw [List.take_append, List.take_of_length_le hle]
  have dab : (a ++ b).drop p.length = b.drop (p.length - a.length) := by
    rw [List.drop_append, List.drop_of_length_le hle]; rfl
  have e : p.length - a.length - b.length = p.length - (a ++ b).length := by rw [List.length_append]; omega
  refine ⟨?_, b.take (p.length - a.length), ?_⟩
  · rcases payloadFeed_length cfg p a ht with ⟨h, _⟩ | ⟨_, hf⟩
    · omega
    · exact hf
  · rcases payloadFeed_length cfg p (a ++ b) ht with ⟨hle', hf'⟩ | ⟨hlt', hf'⟩ <;>
      rcases payloadFeed_length cfg { p with length := p.length - a.length } b ht with ⟨hle2, hf2⟩ | ⟨hlt2, hf2⟩ <;>
      rw [hf', hf2]
    · exact ⟨[.eof], by rw [dab], by rw [tab]⟩
    · rw [List.length_append] at hle'; exact absurd hlt2 (by show ¬ b.length < p.length - a.length; omega)
    · rw [List.length_append] at hlt'; exact absurd hle2 (by show ¬ p.length - a.length ≤ b.length; omega)
    · refine ⟨[], ?_, ?_⟩
      · show (PRes.needs _, _) = (PRes.needs _, _)
        rw [← e, List.append_nil, List.take_of_length_le (Nat.le_of_lt hlt2)]
      · rw [List.append_nil, List.take_of_length_le (Nat.le_of_lt hlt2)]

/-- **Content-Length bodies.** Feeding `a` and then `b` to a length-delimited body that `a` does
not complete delivers the same bytes, ends in the same state and hands back the same surplus
as feeding `a ++ b` at once — for every split. -/
theorem length_body_compositional (cfg : Cfg) (p : PState) (a b : Bytes)
    (ht : p.type = .length) (hlt : a.length < p.length) :
    ∃ p', (payloadFeed cfg p a).1 = .needs p' ∧ p'.type = .length ∧
      (payloadFeed cfg p' b).1 = (payloadFeed cfg p (a ++ b)).1 ∧
      dataOf (payloadFeed cfg p a).2 ++ dataOf (payloadFeed cfg p' b).2
        = dataOf (payloadFeed cfg p (a ++ b)).2 := by
  obtain ⟨hf, x, t, hf2, hf'⟩ := payloadFeed_length_cut cfg p a b ht hlt
  refine ⟨{ p with length := p.length - a.length }, by rw [hf], ht, by rw [hf2], ?_⟩
  rw [hf, hf2, hf', dataOf_dataEv, dataOf_dataEv]
  show dataOf (dataEv a) ++ _ = _
  rw [dataOf_dataEv', List.append_assoc]

/-- **Close-delimited bodies** are delivered byte for byte in any segmentation. -/
theorem untilEof_compositional (cfg : Cfg) (p : PState) (a b : Bytes) (ht : p.type = .untilEof) :
    (payloadFeed cfg p a).1 = .needs p ∧
    dataOf (payloadFeed cfg p a).2 ++ dataOf (payloadFeed cfg p b).2 = dataOf (payloadFeed cfg p (a ++ b)).2 := by
  simp only [payloadFeed_untilEof cfg p _ ht, dataOf_dataEv', and_self]

/-- **Nothing after a rejection.** Once a read has been rejected the parser stays rejected and
delivers nothing, whatever is fed. -/
theorem feed_failed_latched (cfg : Cfg) (urlOk : Bool → Bytes → Bool) (st : St) (d : Bytes)
    (h : st.failed = true) :
    (feed cfg urlOk st d).evs = [] ∧ (feed cfg urlOk st d).st = st := by
  simp [feed, h]

end Aio.Http
