import AioProps.C13Lemmas
/-!
# C13 — property theorems (WebSocket sessions close cleanly in every interleaving)

Model: `AioModel/C13.lean` — server `WebSocketResponse` and client `ClientWebSocketResponse`
side by side, `WebSocketWriter`, `WebSocketDataQueue`, the protocols' `connection_lost` /
`data_received` / drain machinery and the asyncio primitives the code relies on, on a FIFO
event-loop abstraction.  `run (init cfg) ls` is the state after the label sequence `ls`
(application calls from three task slots, task cancellation, peer frames, connection loss,
write back-pressure, passage of virtual time, and `tick` = one ready callback / the next timers).
"For all `ls`" therefore means: for every interleaving at callback granularity.

`cfg.fixed = true` is the model of the writer *with* the repair of finding F17
(`WebSocketWriter._closing` set as soon as the CLOSE frame has been written); `cfg.fixed = false`
is the code as it is.  The correspondence harness drives the real code against `fixed = false`.
-/
namespace Aio.C13
open Aio

/-- the `_fixed` and the `_partial` theorems below are the two halves of `strong := fixed ∨ no pauseW in ls` -/
theorem run_inv (cfg : Cfg) (ls : List Label) :
    Inv (cfg.fixed = true ∨ ∀ l ∈ ls, l ≠ Label.pauseW) cfg (run (init cfg) ls) :=
  Inv_run ls (fun hm hs => hs.elim id fun hn => absurd rfl (hn _ hm)) (Inv_init cfg)

/-- **At most one close frame** — on every interleaving, for server and client, with or without
back-pressure, with the unchanged writer: the wire carries at most one CLOSE frame. -/
theorem at_most_one_close_frame (cfg : Cfg) (ls : List Label) :
    closeCount (run (init cfg) ls).frames ≤ 1 :=
  (run_inv cfg ls).count

/-- A CLOSE frame is only ever on the wire of a session whose `closed` flag is set
(`close()` sets `_closed` before it writes the frame, nothing resets it). -/
theorem close_frame_implies_closed (cfg : Cfg) (ls : List Label) :
    hasClose (run (init cfg) ls).frames = true → (run (init cfg) ls).closed = true :=
  (run_inv cfg ls).closed_of_close

/-
Full statement (FALSE for the unchanged code — finding F17, see `f17_data_after_close`):

  theorem no_data_after_close_frame (cfg : Cfg) (ls : List Label) :
      dataAfterClose (run (init cfg) ls).frames = false

What is proved instead: the statement for the repaired writer on every interleaving
(`no_data_after_close_frame_fixed`), and for the unchanged writer on every interleaving in which the
transport is never write-paused (`no_data_after_close_frame_partial`); the missing part is exactly
"a task calls send_* while close() is parked in the drain of the CLOSE frame".
-/

/-- **No data frame after the close frame**, repaired writer (`_closing` set right after the CLOSE
frame is written): on every interleaving, including back-pressure, cancellation and connection
loss, no TEXT/BINARY frame follows the CLOSE frame on the wire. -/
theorem no_data_after_close_frame_fixed (cfg : Cfg) (hf : cfg.fixed = true) (ls : List Label) :
    dataAfterClose (run (init cfg) ls).frames = false :=
  (run_inv cfg ls).nodata (.inl hf)

/-- **No data frame after the close frame**, unchanged writer, `_partial`: on every interleaving
whose labels never write-pause the transport (`pauseW` does not occur). -/
theorem no_data_after_close_frame_partial (cfg : Cfg) (ls : List Label)
    (hn : ∀ l ∈ ls, l ≠ Label.pauseW) :
    dataAfterClose (run (init cfg) ls).frames = false :=
  (run_inv cfg ls).nodata (.inr hn)

/-- Once the CLOSE frame is on the wire the writer refuses data frames (`WebSocketWriter._closing`):
holds at every reachable state for the repaired writer … -/
theorem writer_closing_after_close_frame_fixed (cfg : Cfg) (hf : cfg.fixed = true) (ls : List Label) :
    hasClose (run (init cfg) ls).frames = true → (run (init cfg) ls).wClosing = true :=
  (run_inv cfg ls).wclosing (.inl hf)

/-- … and for the unchanged writer as long as the transport is never write-paused. -/
theorem writer_closing_after_close_frame_partial (cfg : Cfg) (ls : List Label)
    (hn : ∀ l ∈ ls, l ≠ Label.pauseW) :
    hasClose (run (init cfg) ls).frames = true → (run (init cfg) ls).wClosing = true :=
  (run_inv cfg ls).wclosing (.inr hn)

-- the hypotheses are satisfiable: a run without pauseW that does put a CLOSE frame on the wire
example : hasClose (run (init {}) [.call 0 (.close 1000), .tick]).frames = true := by decide +kernel
example : ∀ l ∈ [Label.call 0 (.close 1000), .tick], l ≠ Label.pauseW := by decide

/-- server, `writer_limit = 1`: a data frame is sent, the transport write-pauses, task 0 calls
`close()` (parks in the drain of the CLOSE frame), task 1 calls `send_bytes` -/
def f17Labels : List Label :=
  [.call 2 (.send 5), .tick, .pauseW, .call 0 (.close 1000), .tick, .call 1 (.send 5), .tick]

def f17Cfg (fixed : Bool) : Cfg := { side := .server, limit := 1, closeTimeout := 1500, fixed := fixed }

/-- **F17 (kernel-checked).** Unchanged writer: the wire reads DATA, CLOSE(1000), DATA. -/
theorem f17_data_after_close :
    (run (init (f17Cfg false)) f17Labels).frames = [.data, .close 1000, .data] ∧
    dataAfterClose (run (init (f17Cfg false)) f17Labels).frames = true := by decide +kernel

/-- the same schedule with the repaired writer: the second `send_bytes` is refused
(`ClientConnectionResetError`), the wire ends with the CLOSE frame -/
theorem f17_repaired :
    (run (init (f17Cfg true)) f17Labels).frames = [.data, .close 1000] ∧
    (getT (run (init (f17Cfg true)) f17Labels) 1).outcome = some (.raised .reset) := by decide +kernel

/-- **Once closed, `receive()` returns at once**: started (or re-entering its loop) on a closed
session with no other receive in progress, it finishes in the same atomic step with the CLOSED
message — or, on the server after `THRESHOLD_CONNLOST_ACCESS` such calls, `RuntimeError`. It never parks. -/
theorem receive_on_closed_session_returns (s : St) (t : Tid) (fuel : Nat)
    (hc : s.closed = true) (hw : s.waiting = false) :
    ∃ s' o, recvLoop s t (fuel + 1) = finish s' t o ∧ (o = .recv .closed ∨ o = .raised .runtime) := by
  unfold recvLoop
  simp only [hw, hc, Bool.false_eq_true, ↓reduceIte]
  split
  · split
    · exact ⟨_, _, rfl, Or.inr rfl⟩
    · exact ⟨_, _, rfl, Or.inl rfl⟩
  · exact ⟨_, _, rfl, Or.inl rfl⟩

-- the hypotheses are reachable: after a completed close() the session is closed and nobody is receiving
example : (run (init {}) [.call 0 (.close 1000), .tick]).closed = true ∧
    (run (init {}) [.call 0 (.close 1000), .tick]).waiting = false := by decide +kernel

/-! ## findings on the unchanged code, as kernel-checked runs of the model
(each is also reproduced on the real objects by the harness: `harness/c13.py`, "directed-findings") -/

def srvCfg : Cfg := { side := .server, limit := 1, closeTimeout := 1500 }
def cliCfg : Cfg := { side := .client, limit := Gen.C13.defaultChunkSize, closeTimeout := 1500 }

/-- server: task 0 is parked in `receive()`, task 1 calls `close()` and waits on `_close_wait`, task 1 is cancelled -/
def closeWaitCancelLabels : List Label :=
  [.call 0 .recv, .tick, .call 1 (.close 1000), .tick, .cancel 1, .tick, .tick, .tick, .tick]

/-- **`close()` cancelled while it waits for `receive()` to step aside (server).** The session is
`closed`, the CLOSE frame is sent, every call has returned, nothing is ready and no timer is armed —
and the transport was never asked to close. -/
theorem close_cancelled_in_close_wait_leaves_transport_open :
    let s := run (init srvCfg) closeWaitCancelLabels
    s.closed = true ∧ s.frames = [.close 1000] ∧ s.trClosing = false ∧ s.ready = [] ∧ s.timers = [] ∧
    (getT s 0).outcome = some (.recv (.msg .closing)) ∧ (getT s 1).outcome = some (.raised .cancelled) := by
  decide +kernel

/-- client, close timeout 1500 ms: `close()` at t=0; the peer sends a TEXT frame at t=1000 and at t=2000 and its
CLOSE at t=3000 -/
def clientTimeoutRestartLabels : List Label :=
  [.call 0 (.close 1000), .tick, .adv 1000, .peer .text, .tick, .adv 1000, .peer .text, .tick, .adv 1000,
   .peer (.close 1000), .tick]

/-- **Client `close()` re-arms its timeout for every message it reads**: it is still running at
t = 3000 ms with a close timeout of 1500 ms, and returns `True` only when the peer's CLOSE arrives. -/
theorem client_close_timeout_restarts_per_message :
    let s := run (init cliCfg) clientTimeoutRestartLabels
    s.cfg.closeTimeout = 1500 ∧ (getT s 0).startedAt = 0 ∧ s.now = 3000 ∧
    (getT s 0).outcome = some (.closeRet true) ∧
    (getT (run (init cliCfg) (clientTimeoutRestartLabels.take 10)) 0).pc = .closeRead := by
  decide +kernel

/-! ## how close() leaves: close code and transport (per exit path, any state)

Full statements that are NOT proved here (they are false on the unchanged code, see the findings above
and `harness/c13.py`; covered by the correspondence run + direct oracle only):

  * `transport_closed_when_closed`: in every quiescent reachable state with `closed` and no call in
    progress, `trClosing` holds  — false: `close_cancelled_in_close_wait_leaves_transport_open`.
  * `close_returns_within`: a task inside close() returns by `startedAt + closeTimeout`
    — false on the client: `client_close_timeout_restarts_per_message`; and not meaningful while the
    transport is write-paused (close() waits in the drain without a timeout).
  * `receive_terminates`: in every quiescent reachable state no task is parked in receive() unless the
    connection is open — false below the session (reader fragment cap, F9); at session level not proved.
  * `close_code_correct`: peer's code after a clean handshake, 1006 otherwise — three deviations found.

What is proved: each *exit path* of close() sets the code it should and asks the transport to close. -/

theorem trClose_spec (s : St) : (trClose s).closeCode = s.closeCode ∧ (trClose s).trClosing = true :=
  ite_elim (fun x : St => x.closeCode = s.closeCode ∧ x.trClosing = true) (fun h => ⟨rfl, h⟩) fun _ => ⟨rfl, rfl⟩

/-- an exit path of `close()` entered in `s` leaves `s'`: code `c`; the transport, if there still was one, closing -/
def ExitsWith (c : Nat) (s s' : St) : Prop :=
  s'.closeCode = some c ∧ (s.protoTransport = true → s'.trClosing = true)

theorem ExitsWith.returns {c : Nat} {s s' : St} (t : Tid) (r : Except Exc Bool) (h : ExitsWith c s s') :
    ExitsWith c s (closeReturn s' t r) := by
  have hf : ∀ o, ExitsWith c s (finish s' t o) := fun o => ite_elim (ExitsWith c s) (fun _ => h) fun _ => h
  fun_cases closeReturn s' t r <;> exact hf _

theorem exitTmo_protoTransport (s : St) (t : Tid) (e : Option Exc) :
    (exitTmo s t e).1.protoTransport = s.protoTransport := by
  fun_cases exitTmo s t e <;> rfl

/-- server `_set_code_close_transport(code)` -/
theorem srv_exit {s s' : St} (c : Nat) (hp : s'.protoTransport = s.protoTransport) :
    ExitsWith c s (srvSetCodeCloseTransport s' c) :=
  ite_elim (ExitsWith c s) (fun _ => ⟨(trClose_spec _).1, fun _ => (trClose_spec _).2⟩)
    fun h => ⟨rfl, fun h' => absurd (hp ▸ h') h⟩

/-- client `self._response.close()`, the code already recorded -/
theorem cli_exit {s s' : St} {c : Nat} (hc : s'.closeCode = some c) (hp : s'.protoTransport = s.protoTransport) :
    ExitsWith c s (cliRespClose s') :=
  ite_elim (ExitsWith c s) (fun _ => ⟨(trClose_spec _).1.trans hc, fun _ => (trClose_spec _).2⟩)
    fun h => ⟨hc, fun h' => absurd (hp ▸ h') h⟩

/-- **Abnormal exits of server close()** (timeout, cancellation, connection error, EOF, protocol error —
every `except` clause of both `try` blocks): reported code 1006 and the transport is asked to close. -/
theorem srv_close_abnormal_exit (s : St) (t : Tid) (e : Exc) :
    (srvCloseExc1 s t e).closeCode = some Gen.C13.codeAbnormal ∧
    (srvCloseExc2 s t e).closeCode = some Gen.C13.codeAbnormal ∧
    (s.protoTransport = true → (srvCloseExc1 s t e).trClosing = true ∧ (srvCloseExc2 s t e).trClosing = true) := by
  have h1 : ExitsWith Gen.C13.codeAbnormal s (srvCloseExc1 s t e) := by
    fun_cases srvCloseExc1 s t e <;> exact .returns _ _ (srv_exit _ rfl)
  have h2 : ExitsWith Gen.C13.codeAbnormal s (srvCloseExc2 s t e) := by
    fun_cases srvCloseExc2 s t e <;> exact .returns _ _ (srv_exit _ rfl)
  exact ⟨h1.1, h2.1, fun h => ⟨h1.2 h, h2.2 h⟩⟩

/-- **Clean handshake, server**: when close()'s read loop finds the peer's CLOSE(c) in the queue it
reports exactly `c` and asks the transport to close. -/
theorem srv_close_reports_peer_code (s : St) (t : Tid) (c : Nat) (rest : List Msg)
    (h : scanClose s.buf = some (c, rest)) :
    (srvCloseRead s t).closeCode = some c ∧ (s.protoTransport = true → (srvCloseRead s t).trClosing = true) := by
  unfold srvCloseRead
  simp only [h]
  exact ExitsWith.returns _ _ (srv_exit c (exitTmo_protoTransport _ _ _))

/-- **Abnormal exits of client close()**: reported code 1006 and the connection is closed. -/
theorem cli_close_abnormal_exit (s : St) (t : Tid) (e : Exc) :
    (cliCloseExc s t e).closeCode = some Gen.C13.codeAbnormal ∧
    (s.protoTransport = true → (cliCloseExc s t e).trClosing = true) := by
  fun_cases cliCloseExc s t e <;> exact ExitsWith.returns _ _ (cli_exit rfl rfl)

theorem mem_insertTimer (w : Nat) (cb : Cb) (l : List (Nat × Cb)) : (w, cb) ∈ insertTimer w cb l := by
  fun_induction insertTimer w cb l with
  | case2 _ _ _ _ ih => exact List.mem_cons_of_mem _ ih
  | _ => exact List.mem_cons_self

theorem srvCloseRead_parks (s : St) (t : Tid) (hb : scanClose s.buf = none) (he : s.eof = false)
    (hw : s.rwaiter = none) :
    srvCloseRead s t = park { s with buf := [], rwaiter := some t } t .closeRead := by
  unfold srvCloseRead
  simp [hb, he, hw]

theorem cliCloseRead_parks (s : St) (t : Tid) (hb : scanClose s.buf = none) (he : s.eof = false)
    (hw : s.rwaiter = none) :
    cliCloseRead s t = park { armTmo s t s.cfg.closeTimeout with buf := [], rwaiter := some t } t .closeRead := by
  simp [cliCloseRead, armTmo, setT, hb, he, hw]

/-- **Server close() never waits for the peer without a deadline**: when it has to park for the peer's
CLOSE (nothing usable buffered, no EOF), a timer for this task at `now + closeTimeout` is armed, and the
task is the queue's waiter — so the peer's CLOSE, EOF, a reader error or the timer will resume it.
(`close_returns_within` proper — a bound over whole runs — is not proved; see the note above.) -/
theorem srv_close_wait_is_timed (s : St) (t : Tid) (hc : s.closing = false) (hb : scanClose s.buf = none)
    (he : s.eof = false) (hw : s.rwaiter = none) :
    (s.now + s.cfg.closeTimeout, Cb.timeout t) ∈ (srvCloseAfterWait s t).timers ∧
    (srvCloseAfterWait s t).rwaiter = some t := by
  unfold srvCloseAfterWait
  rw [if_neg (by simp [hc]), srvCloseRead_parks (armTmo s t _) t hb he hw]
  exact ⟨mem_insertTimer _ _ _, rfl⟩

-- reachable: close() on a fresh open session parks for the peer's CLOSE
example : (init {}).closing = false ∧ scanClose (init {}).buf = none ∧ (init {}).eof = false ∧
    (init {}).rwaiter = none := by decide +kernel

/-- The client arms the same deadline — but on *every* entry of its read loop (after each message that is
not a CLOSE), which is finding `client_close_timeout_restarts_per_message`. -/
theorem cli_close_wait_is_timed (s : St) (t : Tid) (hb : scanClose s.buf = none)
    (he : s.eof = false) (hw : s.rwaiter = none) :
    (s.now + s.cfg.closeTimeout, Cb.timeout t) ∈ (cliCloseRead s t).timers ∧
    (cliCloseRead s t).rwaiter = some t := by
  rw [cliCloseRead_parks s t hb he hw]
  exact ⟨mem_insertTimer _ _ _, rfl⟩

/-! ## heartbeat: the timer fires while a reset is pending (kernel-checked runs of the model)

`dead_peer_detected` proper — "in every reachable quiescent state with a heartbeat configured the session is
closed or closing" — is not proved; it is judged by the direct oracle on the real objects
(`C13/dead-peer-undetected/*`).  What is checked here is the delicate schedule: the heartbeat timer becomes
due, a peer frame is processed first (`_on_data_received` sets `_need_heartbeat_reset`), `_send_heartbeat`
returns early, `_flush_heartbeat_reset` must re-arm — which it only does because `_send_heartbeat` cleared
`_heartbeat_cb` *before* its early return. -/

def hbCfg (side : Side) : Cfg :=
  { side := side, heartbeat := some 2000, closeTimeout := 1500,
    limit := match side with | .server => 65536 | .client => Gen.C13.defaultChunkSize }

/-- clock jumps to the heartbeat deadline, a TEXT frame is processed first, heartbeat callback, reset flush -/
def hbCoincidence : List Label := [.tick, .peer .text, .tick, .tick]

/-- after the coincidence the heartbeat is armed again for `now + heartbeat` on both sides … -/
theorem heartbeat_rearmed_after_coincidence :
    (run (init (hbCfg .server)) hbCoincidence).timers = [(4000, .sendHb)] ∧
    (run (init (hbCfg .client)) hbCoincidence).timers = [(4000, .sendHb)] := by decide +kernel

/-- … and a peer that then stays silent is detected: PING at 4000 ms, no PONG by 5000 ms, session closed with
1006, the transport asked to close, nothing left pending. -/
theorem silent_peer_after_coincidence_is_detected :
    let quiet : List Label := List.replicate 8 .tick
    let s := run (init (hbCfg .server)) (hbCoincidence ++ quiet)
    let c := run (init (hbCfg .client)) (hbCoincidence ++ quiet)
    s.frames = [.ping] ∧ s.closed = true ∧ s.closeCode = some 1006 ∧ s.trClosing = true ∧ s.now = 5000 ∧
    c.frames = [.ping] ∧ c.closed = true ∧ c.closeCode = some 1006 ∧ c.trClosing = true ∧ c.now = 5000 := by
  decide +kernel

/-! ## further kernel-checked schedules (the oracle judges both on the real objects) -/

/-- server close() at t=0 with a 1500 ms close timeout; the peer sends TEXT at t=1375 — -/
def chattyPeerLabels : List Label :=
  [.call 0 (.close 1000), .tick, .adv 1375, .peer .text, .tick, .tick, .tick, .tick]

/-- **The server's close deadline is not restarted by messages**: with one `timeout()` around the whole
wait loop, close() returns `True` at exactly t = 1500 ms with code 1006 although a TEXT frame arrived at 1375 ms.
(The client re-arms per message: `client_close_timeout_restarts_per_message`.) -/
theorem server_close_deadline_not_restarted :
    let s := run (init srvCfg) chattyPeerLabels
    (getT s 0).outcome = some (.closeRet true) ∧ s.now = 1500 ∧ s.closeCode = some 1006 ∧ s.trClosing = true := by
  decide +kernel

/-- heartbeat 2000 ms, autoclose off: receive() hands the peer's CLOSE(4000) to the application -/
def peerCloseNoAutoclose (side : Side) : Cfg := { hbCfg side with autoclose := false }

/-- **Closing state switches the heartbeat off** (`_set_closing` → `_cancel_heartbeat`), both sides: after receive()
returned the peer's CLOSE no timer is left and nothing is ready — no PING can follow the peer's CLOSE; a later
close() ends the session with the peer's code and exactly one CLOSE frame. -/
theorem closing_state_cancels_heartbeat :
    let ls : List Label := [.call 0 .recv, .tick, .peer (.close 4000), .tick, .tick, .tick]
    let s := run (init (peerCloseNoAutoclose .server)) ls
    let c := run (init (peerCloseNoAutoclose .client)) ls
    let fin : List Label := [.adv 5000, .call 1 (.close 1000), .tick, .tick, .tick]
    let s' := run s fin
    let c' := run c fin
    s.closing = true ∧ s.closed = false ∧ s.timers = [] ∧ s.ready = [] ∧
    c.closing = true ∧ c.closed = false ∧ c.timers = [] ∧ c.ready = [] ∧
    s'.closed = true ∧ s'.closeCode = some 4000 ∧ s'.frames = [.close 1000] ∧ s'.exc = none ∧
    c'.closed = true ∧ c'.closeCode = some 4000 ∧ c'.frames = [.close 1000] ∧ c'.exc = none := by
  decide +kernel

/-- **Crossing closes (kernel-checked run, both sides)**: task 0 is parked in receive(), task 1 calls close(), the peer's
CLOSE(4001) arrives before either is resumed.  receive() hands the CLOSE to the application and marks the session
closing even though `closed` is already set, so close() does not wait for the timeout: it returns `True` at once, the
reported code is the peer's, one CLOSE frame was sent, no exception recorded, transport closing. -/
theorem crossing_closes_report_peer_code :
    let ls : List Label := [.call 0 .recv, .tick, .call 1 (.close 1000), .peer (.close 4001), .tick, .tick, .tick, .tick]
    let s := run (init srvCfg) ls
    let c := run (init cliCfg) ls
    s.now = 0 ∧ s.closeCode = some 4001 ∧ s.frames = [.close 1000] ∧ s.exc = none ∧ s.trClosing = true ∧
      (getT s 1).outcome = some (.closeRet true) ∧ (getT s 0).outcome = some (.recv (.msg (.close 4001))) ∧
    c.now = 0 ∧ c.closeCode = some 4001 ∧ c.frames = [.close 1000] ∧ c.exc = none ∧ c.trClosing = true := by
  decide +kernel

/-! ## the autoclose inside receive() does not wait for the transport to drain -/

/-- server `close(drain=False)`: after the CLOSE frame is written, close() never parks in `payload_writer.drain()`
(pc `closeDrain2`), whatever the back-pressure — it goes straight on to the `_close_wait` / `_closing` part. -/
theorem srv_close_nodrain_skips_drain (s : St) (t : Tid) (h : (getT s t).cdrain = false) :
    srvCloseAfterFrame s t = srvCloseAfterDrain s t := by
  unfold srvCloseAfterFrame
  simp [h]

/-- server receive() that reads the peer's CLOSE with autoclose on calls `close(drain=False)` -/
theorem srv_autoclose_uses_nodrain (s : St) (t : Tid) (c : Nat) (hs : s.cfg.side = .server)
    (hc : s.closed = false) (ha : s.cfg.autoclose = true) :
    (recvGot s t (.ok (.close c))).1 =
      recvNestedClose (srvSetClosing s c) t Gen.C13.codeOk false (.msg (.close c)) := by
  unfold recvGot
  simp [hs, hc, ha]

/-- **Peer sends CLOSE but does not read (kernel-checked run).** Server, autoclose on, default writer limit, transport
write-paused before the peer's CLOSE arrives: receive() returns the CLOSE message in the very step in which it consumes
it (t = 0), our CLOSE frame is written, the peer's code is reported and the transport is asked to close — nothing waits
for the drain. -/
theorem peer_close_while_write_paused_is_not_blocked :
    let cfg : Cfg := { side := .server, limit := 65536, closeTimeout := 1500 }
    let s := run (init cfg) [.pauseW, .call 0 .recv, .tick, .peer (.close 4001), .tick]
    s.paused = true ∧ (getT s 0).outcome = some (.recv (.msg (.close 4001))) ∧ s.frames = [.close 1000] ∧
    s.closeCode = some 4001 ∧ s.closed = true ∧ s.trClosing = true ∧ s.now = 0 := by
  decide +kernel

/-- `calculate_timeout_when`: a timeout at or below the ceil threshold (5 s) is used as is … -/
theorem calcWhen_at_or_below_threshold (now t : Nat) (h : t ≤ Gen.C13.ceilThresholdMs) : calcWhen now t = now + t := by
  unfold calcWhen
  simp [Nat.not_lt.mpr h]

/-- … above it the deadline is rounded up to a whole second: never early, less than one second late. -/
theorem calcWhen_above_threshold (now t : Nat) (h : t > Gen.C13.ceilThresholdMs) :
    calcWhen now t % 1000 = 0 ∧ now + t ≤ calcWhen now t ∧ calcWhen now t < now + t + 1000 := by
  unfold calcWhen ceilSec
  simp only [h, ↓reduceIte]
  omega

end Aio.C13
