import AioModel.C17
import AioProps.Basics
/-!
# C17 — the redirect loop, step by step

Where a header of `prepare`'s request has its provenances from (`prepare_eq`), what a followed
redirect does to the state (`react_cases`, `react_headers`), the invariant `Inv` both keep, and
from these the statements about a whole run.  `run` is `runF` on a chain without faults
(`runF_resp_eq_run`), so what holds under faults is proved for `runF` only.
-/
namespace Aio.C17
open Aio

/-- the cookie jar after the responses to the first requests have been fed to it -/
def jarAfter (env : Env) : env.jar.σ → List Sent → List Resp → env.jar.σ
  | j, s :: ss, r :: rs => jarAfter env (env.jar.update j s.url r.sc) ss rs
  | j, _, _ => j

/-- number of `drop` replies among the first `n` replies -/
def dropsIn (chain : List Reply) (n : Nat) : Nat := ((chain.take n).filter (· == Reply.drop)).length

theorem mem_popAll {n : Str} {h : List Hdr} {x : Hdr} :
    x ∈ popAll n h ↔ x ∈ h ∧ ciEq x.name n = false := by
  simp [popAll, List.mem_filter]

theorem mem_of_mem_popFirst {n : Str} {h : List Hdr} {x : Hdr} (hx : x ∈ popFirst n h) : x ∈ h := by
  fun_induction popFirst n h
  case case1 => exact hx
  case case2 y t _ => exact List.mem_cons_of_mem _ hx
  case case3 y t _ ih => exact (List.mem_cons.mp hx).elim (· ▸ List.mem_cons_self) fun h1 => List.mem_cons_of_mem _ (ih h1)

theorem mem_setHdr {x : Hdr} {h : List Hdr} {y : Hdr} (hy : y ∈ setHdr x h) : y = x ∨ y ∈ h := by
  fun_induction setHdr x h
  case case1 => exact Or.inl (List.mem_singleton.mp hy)
  case case2 z t _ =>
    exact (List.mem_cons.mp hy).imp_right fun h1 => List.mem_cons_of_mem _ (mem_popAll.mp h1).1
  case case3 z t _ ih =>
    rcases List.mem_cons.mp hy with h1 | h1
    · exact Or.inr (h1 ▸ List.mem_cons_self)
    · exact (ih h1).imp_right (List.mem_cons_of_mem _)

theorem getFirst_mem {n : Str} {h : List Hdr} {x : Hdr} (hx : getFirst n h = some x) :
    x ∈ h ∧ ciEq x.name n = true := by
  fun_induction getFirst n h
  case case1 => cases hx
  case case2 y t hc => cases hx; exact ⟨List.mem_cons_self, hc⟩
  case case3 y t _ ih => exact ⟨List.mem_cons_of_mem _ (ih hx).1, (ih hx).2⟩

theorem ciEq_trans_name {a b n : Str} (h1 : ciEq a n = true) (h2 : ciEq b n = true) : ciEq a b = true := by
  simp [ciEq] at *; rw [h1, h2]

theorem isSecretName_congr {a b : Str} (h : ciEq a b = true) : isSecretName a = isSecretName b := by
  simp [isSecretName, ciEq] at *; rw [h]

theorem isSecretName_HOST : isSecretName HOST = false := by decide +kernel
theorem isSecretName_COOKIE : isSecretName COOKIE = true := by decide +kernel
theorem isSecretName_AUTHORIZATION : isSecretName AUTHORIZATION = true := by decide +kernel

theorem mem_stripSecrets {h : List Hdr} {x : Hdr} (hx : x ∈ stripSecrets h) :
    x ∈ h ∧ isSecretName x.name = false := by
  have h1 := mem_popAll.mp hx
  have h2 := mem_popAll.mp h1.1
  have h3 := mem_popAll.mp h2.1
  exact ⟨h3.1, by simp [isSecretName, h1.2, h2.2, h3.2]⟩

theorem mem_dropContentLength {h : List Hdr} {x : Hdr} (hx : x ∈ dropContentLength h) : x ∈ h := by
  unfold dropContentLength at hx
  split at hx
  · split at hx
    · exact hx
    · exact mem_of_mem_popFirst hx
  · exact hx

theorem mem_insertCookie {c : Cookie} {l : List Cookie} {d : Cookie} (hd : d ∈ insertCookie c l) :
    d = c ∨ d ∈ l := by
  fun_induction insertCookie c l
  case case1 => exact Or.inl (List.mem_singleton.mp hd)
  case case2 e t _ => exact (List.mem_cons.mp hd).imp_right (List.mem_cons_of_mem _)
  case case3 e t _ ih =>
    rcases List.mem_cons.mp hd with h1 | h1
    · exact Or.inr (h1 ▸ List.mem_cons_self)
    · exact (ih h1).imp_right (List.mem_cons_of_mem _)

theorem mem_loadCookies {base extra : List Cookie} {d : Cookie} (hd : d ∈ loadCookies base extra) :
    d ∈ base ∨ d ∈ extra := by
  unfold loadCookies at hd
  induction extra generalizing base with
  | nil => exact Or.inl hd
  | cons e t ih =>
    rcases ih hd with h1 | h1
    · rcases mem_insertCookie h1 with h2 | h2
      · exact Or.inr (h2 ▸ List.mem_cons_self)
      · exact Or.inl h2
    · exact Or.inr (List.mem_cons_of_mem _ h1)

theorem mem_insertSorted {c : Cookie} {l : List Cookie} {d : Cookie} :
    d ∈ insertSorted c l ↔ d = c ∨ d ∈ l := by
  fun_induction insertSorted c l
  case case1 => simp
  case case2 => simp
  case case3 e t _ ih => simp only [List.mem_cons, ih]; exact or_left_comm

theorem mem_sortCookies {l : List Cookie} {d : Cookie} : d ∈ sortCookies l ↔ d ∈ l := by
  unfold sortCookies
  induction l with
  | nil => simp
  | cons e t ih => simp [List.foldr_cons, mem_insertSorted, ih]

theorem mem_mergedCookies {env : Env} {h : List Hdr} {all : List Cookie} {c : Cookie}
    (hc : c ∈ mergedCookies env h all) : c ∈ headerCookies env h ∨ c ∈ all := by
  unfold mergedCookies at hc
  split at hc
  · cases hc
  · rcases mem_loadCookies (mem_sortCookies.mp hc) with h1 | h1
    · exact (mem_loadCookies h1).elim (nomatch ·) Or.inl
    · exact Or.inr h1

/-- every provenance of a secret-named header was born within `[lo, hi]` -/
def GoodHdr (lo hi : Nat) (x : Hdr) : Prop :=
  isSecretName x.name = true → ∀ p ∈ x.provs, lo ≤ p.birth ∧ p.birth ≤ hi

def Tagged (lo hi : Nat) (h : List Hdr) : Prop := ∀ x ∈ h, GoodHdr lo hi x

def GoodCookie (lo hi : Nat) (c : Cookie) : Prop := ∀ p ∈ c.provs, lo ≤ p.birth ∧ p.birth ≤ hi

theorem Tagged.mono {lo hi hi' : Nat} {h : List Hdr} (ht : Tagged lo hi h) (hle : hi ≤ hi') : Tagged lo hi' h :=
  fun x hx hs p hp => ⟨(ht x hx hs p hp).1, Nat.le_trans (ht x hx hs p hp).2 hle⟩

theorem Tagged.append {lo hi : Nat} {h g : List Hdr} (ht : Tagged lo hi h) (hg : Tagged lo hi g) :
    Tagged lo hi (h ++ g) :=
  fun y hy => (List.mem_append.mp hy).elim (ht y) (hg y)

/-- no value selected from the cookie jar is ever stored in the `headers` local -/
def NoJar (h : List Hdr) : Prop := ∀ x ∈ h, ∀ p ∈ x.provs, ∀ k, p ≠ Prov.jar k

/-- the invariant of the loop state: secret-named headers in the `headers` local were all
born in the current same-origin streak; per-request cookies are only still present while the
streak is the one that began at hop 0 -/
structure Inv {σ : Type} (st : St σ) : Prop where
  hdrs : Tagged st.since st.idx st.headers
  noJar : NoJar st.headers
  cookies : st.cookies.isSome = true → st.since = 0
  le : st.since ≤ st.idx

theorem Inv.retry {σ : Type} {st : St σ} (h : Inv st) (b : Bool) : Inv { st with retry := b } :=
  ⟨h.hdrs, h.noJar, h.cookies, h.le⟩

/-! ## headers without provenance

The `ClientRequest` steps other than `Host` and the `Cookie` merge (defaults, `Content-Length`,
`Content-Type`, `Transfer-Encoding`) only add headers that carry no provenance, and everything
proved about a request asks where its provenances come from. -/

def Sub (h' h : List Hdr) : Prop := ∀ x ∈ h', x ∈ h ∨ x.provs = []

theorem Sub.refl (h : List Hdr) : Sub h h := fun _ hx => Or.inl hx

theorem Sub.trans {a b c : List Hdr} (hab : Sub a b) (hbc : Sub b c) : Sub a c :=
  fun x hx => (hab x hx).elim (hbc x) Or.inr

theorem sub_setHdr {x : Hdr} (h : List Hdr) (hx : x.provs = []) : Sub (setHdr x h) h :=
  fun _ hy => (mem_setHdr hy).elim (fun e => Or.inr (e ▸ hx)) Or.inl

theorem sub_addDefault (kv : Str × Str) (h : List Hdr) : Sub (addDefault kv h) h := by
  unfold addDefault
  split
  · exact .refl h
  · exact fun x hx => (List.mem_append.mp hx).imp_right fun h1 => by rw [List.mem_singleton.mp h1]

theorem sub_autoHeaders (h : List Hdr) : Sub (autoHeaders h) h := by
  refine (sub_addDefault _ _).trans ?_
  generalize Gen.C17.defaultHeaders = l
  induction l generalizing h with
  | nil => exact .refl h
  | cons kv t ih => exact (ih _).trans (sub_addDefault kv h)

theorem sub_bodyHeaders (m : Str) (d : Option Body) (h : List Hdr) : Sub (bodyHeaders m d h).1 h := by
  let P (pr : List Hdr × Bool) : Prop := Sub pr.1 h
  unfold bodyHeaders
  cases d with
  | none => exact ite_elim P (fun _ => sub_setHdr h rfl) fun _ => .refl h
  | some b =>
    dsimp only
    generalize hpr : (if (!has CONTENT_LENGTH h) = true then _ else _ : List Hdr × Bool) = pr
    have h1 : Sub pr.1 h := hpr ▸
      ite_elim P (fun _ => ite_elim P (fun _ => sub_setHdr h rfl) fun _ => .refl h) fun _ => .refl h
    cases b.ctype with
    | none => exact h1
    | some ct => exact ite_elim P (fun _ => h1) fun _ => (sub_setHdr _ rfl).trans h1

theorem sub_teHeaders {h h' : List Hdr} {m : Str} {d : Option Body} {ch : Bool}
    (he : teHeaders m d ch h = .ok h') : Sub h' h := by
  revert he
  fun_cases teHeaders m d ch h
  case case1 => nofun
  case case2 => exact fun e => by cases e; exact .refl h
  case case3 => nofun
  case case4 => exact fun e => by cases e; exact sub_setHdr h rfl
  case case5 => exact fun e => by cases e; exact .refl h
  case case6 => exact fun e => by cases e; exact .refl h

theorem sub_defaultCtype (m : Str) (h : List Hdr) : Sub (defaultCtype m h) h := by
  unfold defaultCtype
  split
  · exact sub_setHdr h rfl
  · exact .refl h

/-- `x` is the `Authorization` header installed at the top of this iteration: the credentials
of the URL, or the netrc entry of the URL's host -/
def AuthAt (env : Env) (st : St env.jar.σ) (x : Hdr) : Prop :=
  x.name = AUTHORIZATION ∧
    (x.provs = [.url st.idx] ∨ x.provs = [.netrc st.idx] ∧ env.netrc st.url.origin.host = some x.value)

theorem AuthAt.born {env : Env} {st : St env.jar.σ} {x : Hdr} (h : AuthAt env st x) {p : Prov} (hp : p ∈ x.provs) :
    p.birth = st.idx ∧ ∀ k, p ≠ Prov.jar k := by
  rcases h.2 with h1 | ⟨h1, -⟩
  · rw [h1] at hp; cases List.mem_singleton.mp hp; exact ⟨rfl, nofun⟩
  · rw [h1] at hp; cases List.mem_singleton.mp hp; exact ⟨rfl, nofun⟩

theorem applyAuth_ok {env : Env} {cfg : Cfg} {st : St env.jar.σ} {hs : List Hdr}
    (h : applyAuth env cfg st = .ok hs) : ∀ x ∈ hs, x ∈ st.headers ∨ AuthAt env st x := by
  have set {a : Hdr} (ha : AuthAt env st a) : ∀ x ∈ setHdr a st.headers, x ∈ st.headers ∨ AuthAt env st x :=
    fun x hx => (mem_setHdr hx).elim (fun e => Or.inr (e ▸ ha)) Or.inl
  revert h
  fun_cases applyAuth env cfg st
  case case1 => nofun
  case case2 => exact fun h => by cases h; exact set ⟨rfl, Or.inl rfl⟩
  case case3 a _ _ ha => exact fun h => by cases h; exact set ⟨rfl, Or.inr ⟨rfl, ha⟩⟩
  case case4 => exact fun h => by cases h; exact fun x hx => Or.inl hx
  case case5 => exact fun h => by cases h; exact fun x hx => Or.inl hx

theorem hostHeader_prov (url : Url) (hs : List Hdr) : (hostHeader url hs).name = HOST ∧
    ∀ p ∈ (hostHeader url hs).provs, ∃ y ∈ hs, ciEq y.name HOST = true ∧ p ∈ y.provs := by
  unfold hostHeader
  split
  · next y hy => exact ⟨rfl, fun p hp => ⟨y, (getFirst_mem hy).1, (getFirst_mem hy).2, hp⟩⟩
  · exact ⟨rfl, nofun⟩

theorem mergedCookies_prov {env : Env} {st : St env.jar.σ} {url : Url} {h : List Hdr} {c : Cookie} {p : Prov}
    (hc : c ∈ mergedCookies env h (allCookies env st url)) (hp : p ∈ c.provs) :
    (∃ z ∈ h, ciEq z.name COOKIE = true ∧ p ∈ z.provs) ∨ p = .jar st.idx ∨
      (p = .caller ∧ st.cookies.isSome = true) := by
  rcases mem_mergedCookies hc with h1 | h1
  · unfold headerCookies at h1
    split at h1
    · next z hz =>
      obtain ⟨nv, _, rfl⟩ := List.mem_map.mp h1
      exact Or.inl ⟨z, (getFirst_mem hz).1, (getFirst_mem hz).2, hp⟩
    · cases h1
  · rcases mem_loadCookies h1 with h2 | h2
    · obtain ⟨nv, _, rfl⟩ := List.mem_map.mp h2
      exact Or.inr (Or.inl (List.mem_singleton.mp hp))
    · unfold reqCookies at h2
      split at h2
      · next hcs =>
        obtain ⟨nv, _, rfl⟩ := List.mem_map.mp h2
        exact Or.inr (Or.inr ⟨List.mem_singleton.mp hp, by rw [hcs]; rfl⟩)
      · cases h2

/-- `prepare` inverted: the state and the request it returns, and where the provenances on the
wire come from; `hs` is the `headers` local after the `Authorization` decision -/
theorem prepare_eq {env : Env} {cfg : Cfg} {st st1 : St env.jar.σ} {s : Sent}
    (h : prepare env cfg st = .ok (st1, s)) :
    ∃ (hs h5 : List Hdr) (pairs : List Cookie) (body : Bytes),
      (∀ x ∈ hs, x ∈ st.headers ∨ AuthAt env st x) ∧
      (∀ c ∈ pairs, ∀ p ∈ c.provs, (∃ z ∈ hs, ciEq z.name COOKIE = true ∧ p ∈ z.provs) ∨
        p = .jar st.idx ∨ (p = .caller ∧ st.cookies.isSome = true)) ∧
      (∀ x ∈ h5, ∀ p ∈ x.provs, x ∈ hs ∨
        (x.name = HOST ∧ ∃ y ∈ hs, ciEq y.name HOST = true ∧ p ∈ y.provs) ∨
        (x.name = COOKIE ∧ ∃ c ∈ pairs, p ∈ c.provs)) ∧
      wireBody st.data st.consumed h5 = .ok body ∧
      let url : Url := { st.url with cred := none }
      st1 = { st with url := url, headers := popFirst HOST hs,
                      consumed := st.consumed || (match st.data with
                        | some b => b.oneShot && writes st.data
                        | none => false) } ∧
      s = { idx := st.idx, since := st.since, url := url, method := st.method,
            target := st.params.getD st.url.target, headers := h5, cookiePairs := pairs, body := body,
            jarSel := env.jar.filter st.jar url, data := st.data } := by
  unfold prepare at h
  dsimp only at h
  split at h
  · cases h
  split at h
  · cases h
  rename_i hs hauth
  split at h
  · cases h
  rename_i h4 hte
  split at h
  · cases h
  rename_i body hbody
  cases h
  have base : ∀ x ∈ autoHeaders (hostHeader { st.url with cred := none } hs :: popFirst HOST hs), ∀ p ∈ x.provs,
      x ∈ hs ∨ (x.name = HOST ∧ ∃ y ∈ hs, ciEq y.name HOST = true ∧ p ∈ y.provs) := by
    intro x hx p hp
    rcases sub_autoHeaders _ x hx with h1 | h1
    · rcases List.mem_cons.mp h1 with rfl | h2
      · exact Or.inr ⟨(hostHeader_prov _ _).1, (hostHeader_prov _ _).2 p hp⟩
      · exact Or.inl (mem_of_mem_popFirst h2)
    · rw [h1] at hp; cases hp
  refine ⟨hs, _, _, body, applyAuth_ok hauth, ?_, ?_, hbody, rfl, rfl⟩
  · intro c hc p hp
    rcases mergedCookies_prov hc hp with ⟨z, hz, hn, hpz⟩ | h1
    · rcases base z hz p hpz with h2 | ⟨h2, -⟩
      · exact Or.inl ⟨z, h2, hn, hpz⟩
      · rw [h2] at hn; exact absurd hn (by decide)
    · exact Or.inr h1
  · intro x hx p hp
    rcases (sub_defaultCtype _ _).trans ((sub_teHeaders hte).trans (sub_bodyHeaders _ _ _)) x hx with h1 | h1
    · unfold cookieHeaders at h1
      split at h1
      · exact (base x h1 p hp).imp_right Or.inl
      · rcases List.mem_append.mp h1 with h2 | h2
        · exact (base x (mem_popAll.mp h2).1 p hp).imp_right Or.inl
        · rw [List.mem_singleton.mp h2] at hp ⊢
          exact Or.inr (Or.inr ⟨rfl, List.mem_flatMap.mp hp⟩)
    · rw [h1] at hp; cases hp

/-- what one `prepare` establishes: the request on the wire carries only secrets born in
the current streak; the loop state keeps the invariant; the ghost counters are copied -/
structure PrepSpec (env : Env) (st st1 : St env.jar.σ) (s : Sent) : Prop where
  wire : Tagged st.since st.idx s.headers
  pairs : ∀ c ∈ s.cookiePairs, GoodCookie st.since st.idx c
  jarTag : ∀ c ∈ s.cookiePairs, ∀ p ∈ c.provs, ∀ k, p = Prov.jar k → k = st.idx
  sJar : s.jarSel = env.jar.filter st.jar s.url
  sData : s.data = st.data
  sUrl : s.url = { st.url with cred := none }
  sBody : wireBody s.data st.consumed s.headers = .ok s.body
  sIdx : s.idx = st.idx
  sSince : s.since = st.since
  sOrigin : s.url.origin = st.url.origin
  sMethod : s.method = st.method
  inv : Inv st1
  idx : st1.idx = st.idx
  since : st1.since = st.since
  url : st1.url = s.url
  cookies : st1.cookies = st.cookies
  redirects : st1.redirects = st.redirects
  history : st1.history = st.history
  method : st1.method = st.method
  data : st1.data = st.data
  jar : st1.jar = st.jar
  retry : st1.retry = st.retry

theorem prepare_spec {env : Env} {cfg : Cfg} {st st1 : St env.jar.σ} {s : Sent}
    (hinv : Inv st) (h : prepare env cfg st = .ok (st1, s)) : PrepSpec env st st1 s := by
  obtain ⟨hs, h5, pairs, body, hhs, hpairs, hwire, hbody, rfl, rfl⟩ := prepare_eq h
  have now : ∀ {p : Prov}, p.birth = st.idx → st.since ≤ p.birth ∧ p.birth ≤ st.idx :=
    fun e => by rw [e]; exact ⟨hinv.le, Nat.le_refl _⟩
  have good : Tagged st.since st.idx hs := fun x hx hsec p hp =>
    (hhs x hx).elim (fun h1 => hinv.hdrs x h1 hsec p hp) fun h1 => now (h1.born hp).1
  have nj : NoJar hs := fun x hx p hp =>
    (hhs x hx).elim (fun h1 => hinv.noJar x h1 p hp) fun h1 => (h1.born hp).2
  have hgood : ∀ c ∈ pairs, GoodCookie st.since st.idx c := by
    intro c hc p hp
    rcases hpairs c hc p hp with ⟨z, hz, hn, hpz⟩ | rfl | ⟨rfl, hck⟩
    · exact good z hz (by rw [isSecretName_congr hn]; exact isSecretName_COOKIE) p hpz
    · exact now rfl
    · rw [hinv.cookies hck]; exact ⟨Nat.le_refl _, Nat.zero_le _⟩
  exact {
    wire := by
      intro x hx hsec p hp
      rcases hwire x hx p hp with h1 | ⟨h1, -⟩ | ⟨-, c, hc, hpc⟩
      · exact good x h1 hsec p hp
      · rw [h1, isSecretName_HOST] at hsec; cases hsec
      · exact hgood c hc p hpc
    pairs := hgood
    jarTag := by
      intro c hc p hp k hk
      rcases hpairs c hc p hp with ⟨z, hz, -, hpz⟩ | h1 | ⟨h1, -⟩
      -- this is what `NoJar` is in the invariant for: a pair taken over from the `Cookie` header of `hs` is no jar pair
      · exact absurd hk (nj z hz p hpz k)
      · rw [hk] at h1; cases h1; rfl
      · rw [hk] at h1; cases h1
    sJar := rfl, sData := rfl, sUrl := rfl, sBody := hbody, sIdx := rfl, sSince := rfl, sOrigin := rfl, sMethod := rfl
    inv := ⟨fun x hx => good x (mem_of_mem_popFirst hx), fun x hx => nj x (mem_of_mem_popFirst hx),
      hinv.cookies, hinv.le⟩
    idx := rfl, since := rfl, url := rfl, cookies := rfl, redirects := rfl, history := rfl
    method := rfl, data := rfl, jar := rfl, retry := rfl }

/-- the six ways `react` can end; a case has a hypothesis only for the branch conditions the proofs below use -/
theorem react_cases {env : Env} {cfg : Cfg} {M : Next env.jar.σ → Prop} (st : St env.jar.σ) (s : Sent) (r : Resp)
    (plain : (isRedirect r.status && cfg.allowRedirects) = false → M (.stop (.ok st.idx st.history) []))
    (tooMany : M (.stop (.err .tooManyRedirects) [.close st.idx]))
    (consumed : M (.stop (.err .payloadConsumed) [.close st.idx]))
    (noLoc : (isRedirect r.status && cfg.allowRedirects) = true → r.loc = .none →
      M (.stop (.ok st.idx (st.history ++ [st.idx])) []))
    (refused : ∀ e, M (.stop (.err e) [.release st.idx, .close st.idx]))
    (follow : (isRedirect r.status && cfg.allowRedirects) = true →
      (cfg.maxRedirects = 0 ∨ st.redirects + 1 < cfg.maxRedirects) →
      (toGet r.status s.method = false → st.consumed = false) → ∀ target, r.loc = .ok target →
      let rewrite := toGet r.status s.method
      let cross := s.url.origin != target.origin
      let headers := if rewrite then dropContentLength st.headers else st.headers
      M (.continue
          { url := target, params := none,
            headers := if cross then stripSecrets headers else headers,
            cookies := if cross then none else st.cookies,
            method := if rewrite then GET else st.method,
            data := if rewrite then none else some (st.data.getD emptyBody),
            consumed := if rewrite then false else st.consumed,
            redirects := st.redirects + 1, history := st.history ++ [st.idx],
            jar := env.jar.update st.jar s.url r.sc, retry := st.retry,
            idx := st.idx + 1, since := if cross then st.idx + 1 else st.since }
          [.release st.idx, .release st.idx])) :
    M (react env cfg st s r) := by
  unfold react
  dsimp only
  refine ite_elim M (fun hred => ?_) fun hred => plain (by simpa using hred)
  refine ite_elim M (fun _ => tooMany) fun hmax => ?_
  refine ite_elim M (fun _ => consumed) fun hcons => ?_
  cases hl : r.loc with
  | none => exact noLoc hred hl
  | ok target => exact follow hred (by simp at hmax; omega) (by simpa using hcons) target hl
  | _ => exact refused _

theorem react_headers {env : Env} {cfg : Cfg} {st1 st2 : St env.jar.σ} {s : Sent} {r : Resp} {evs : List Ev}
    (h : react env cfg st1 s r = .continue st2 evs) :
    (∀ x ∈ st2.headers, x ∈ st1.headers) ∧
    ((st2.since = st1.since ∧ st2.cookies = st1.cookies ∧ st2.url.origin = s.url.origin) ∨
      (st2.since = st1.idx + 1 ∧ st2.cookies = none ∧ ∀ x ∈ st2.headers, isSecretName x.name = false)) := by
  refine react_cases (M := fun n => n = .continue st2 evs → _) st1 s r
    (fun _ => nofun) nofun nofun (fun _ _ => nofun) (fun _ => nofun) ?_ h
  intro _ _ _ target _ rewrite cross headers h
  cases h
  have keep : ∀ x ∈ headers, x ∈ st1.headers := by
    intro x hx
    simp only [headers] at hx
    split at hx
    · exact mem_dropContentLength hx
    · exact hx
  by_cases hc : cross = true
  · simp only [hc, if_true]
    exact ⟨fun x hx => keep x (mem_stripSecrets hx).1, Or.inr ⟨trivial, trivial, fun x hx => (mem_stripSecrets hx).2⟩⟩
  · simp only [hc]
    exact ⟨keep, Or.inl ⟨rfl, rfl, Eq.symm (by simpa [cross] using hc)⟩⟩

/-- what a followed redirect establishes -/
structure ReactSpec (env : Env) (cfg : Cfg) (st1 st2 : St env.jar.σ) (s : Sent) (r : Resp) (evs : List Ev) : Prop where
  jar : st2.jar = env.jar.update st1.jar s.url r.sc
  inv : Inv st2
  idx : st2.idx = st1.idx + 1
  streak : (st2.since = st1.since ∧ st2.url.origin = s.url.origin) ∨ st2.since = st1.idx + 1
  redirects : st2.redirects = st1.redirects + 1
  history : st2.history = st1.history ++ [st1.idx]
  isRedir : isRedirect r.status = true ∧ cfg.allowRedirects = true
  bound : cfg.maxRedirects = 0 ∨ st1.redirects + 1 < cfg.maxRedirects
  target : r.loc = .ok st2.url
  method : st2.method = if toGet r.status s.method then GET else st1.method
  data : st2.data = if toGet r.status s.method then none else some (st1.data.getD emptyBody)
  fresh : st2.consumed = false
  notConsumed : toGet r.status s.method = false → st1.consumed = false
  retry : st2.retry = st1.retry
  evs : evs = [.release st1.idx, .release st1.idx]

theorem react_spec {env : Env} {cfg : Cfg} {st1 st2 : St env.jar.σ} {s : Sent} {r : Resp} {evs : List Ev}
    (hinv : Inv st1) (h : react env cfg st1 s r = .continue st2 evs) : ReactSpec env cfg st1 st2 s r evs := by
  obtain ⟨hsub, hstreak⟩ := react_headers h
  have inv (hidx : st2.idx = st1.idx + 1) : Inv st2 := by
    have noJar : NoJar st2.headers := fun x hx => hinv.noJar x (hsub x hx)
    rcases hstreak with ⟨e1, e2, -⟩ | ⟨e1, e2, hno⟩
    · exact {
        hdrs := by rw [e1, hidx]; exact fun x hx => hinv.hdrs.mono (Nat.le_succ _) x (hsub x hx)
        noJar
        cookies := by rw [e1, e2]; exact hinv.cookies
        le := by rw [e1, hidx]; exact Nat.le_succ_of_le hinv.le }
    · exact {
        hdrs := fun x hx hsec => by rw [hno x hx] at hsec; cases hsec
        noJar
        cookies := by rw [e2]; nofun
        le := by rw [e1, hidx]; exact Nat.le_refl _ }
  refine react_cases (M := fun n => n = .continue st2 evs → _) st1 s r
    (fun _ => nofun) nofun nofun (fun _ _ => nofun) (fun _ => nofun) ?_ h
  intro hred hb hnc target hl rewrite cross headers e
  cases e
  exact {
    jar := rfl, inv := inv rfl, idx := rfl, streak := hstreak.imp (fun e => ⟨e.1, e.2.2⟩) (·.1)
    redirects := rfl, history := rfl, isRedir := by simpa using hred, bound := hb, target := hl
    method := rfl, data := rfl, notConsumed := hnc, retry := rfl, evs := rfl
    fresh := by
      show (if toGet r.status s.method = true then false else st1.consumed) = false
      split
      · rfl
      · next hg => exact hnc (by simpa using hg) }

theorem react_stop {env : Env} {cfg : Cfg} {st1 : St env.jar.σ} {s : Sent} {r : Resp} {out : Outcome} {evs : List Ev}
    (h : react env cfg st1 s r = .stop out evs) :
    (∃ e, out = .err e ∧ Ev.close st1.idx ∈ evs) ∨
    ∃ hist, out = .ok st1.idx hist ∧
      ((isRedirect r.status && cfg.allowRedirects) = false → hist = st1.history) ∧
      ((isRedirect r.status && cfg.allowRedirects) = true → r.loc = .none ∧ hist = st1.history ++ [st1.idx]) := by
  refine react_cases (M := fun n => n = .stop out evs → _) st1 s r ?_ ?_ ?_ ?_ ?_ (fun _ _ _ _ _ => nofun) h
  · intro hred e; cases e
    exact Or.inr ⟨_, rfl, fun _ => rfl, fun h => by rw [hred] at h; cases h⟩
  · intro e; cases e; exact Or.inl ⟨_, rfl, List.mem_cons_self⟩
  · intro e; cases e; exact Or.inl ⟨_, rfl, List.mem_cons_self⟩
  · intro hred hl e; cases e
    exact Or.inr ⟨_, rfl, fun h => (by rw [hred] at h; cases h), fun _ => ⟨hl, rfl⟩⟩
  · intro err e; cases e; exact Or.inl ⟨_, rfl, List.mem_cons_of_mem _ List.mem_cons_self⟩

/-! ## the loop

Statements about a whole run go by `fun_induction` on `run` / `runF`; the cases come in the order
of the definition: `prepare` fails; the chain is used up; for `runF`, a drop that ends the call and a
drop that is resent; `react` stops; `react` goes on. -/

theorem afterDrop_error {σ : Type} {st1 : St σ} {e : Err} (h : afterDrop st1 = .error e) : e = .disconnected := by
  revert h
  fun_cases afterDrop st1
  case case1 => exact fun h => by cases h; rfl
  case case2 => exact fun h => by cases h; rfl
  case case3 => nofun

theorem afterDrop_ok {σ : Type} {st1 st1' : St σ} (h : afterDrop st1 = .ok st1') :
    st1.retry = true ∧ st1' = { st1 with retry := false } := by
  revert h
  fun_cases afterDrop st1
  case case1 => nofun
  case case2 => nofun
  case case3 hr _ => exact fun h => by cases h; exact ⟨by simpa using hr, rfl⟩

theorem runF_resp_eq_run {env : Env} {cfg : Cfg} (chain : List Resp) (st : St env.jar.σ) :
    runF env cfg st (chain.map Reply.resp) = run env cfg st chain := by
  fun_induction run env cfg st chain
  case case1 st chain e hp => rw [runF, hp]
  case case2 st st1 s hp => rw [List.map_nil, runF, hp]
  case case3 st st1 s hp r rest out evs hr => rw [List.map_cons, runF, hp]; dsimp only; rw [hr]
  case case4 st st1 s hp r rest st2 evs hr res ih =>
    rw [List.map_cons, runF, hp]; dsimp only; rw [hr]; dsimp only; rw [ih]

/-- per-request facts along the whole run, relative to the state `st` the run starts from: the
secrets of `sk` were born in its streak, and that streak is the one `st` is in or began after `st` -/
structure SentOk {σ : Type} (st : St σ) (sk : Sent) : Prop where
  wire : Tagged sk.since sk.idx sk.headers
  pairs : ∀ c ∈ sk.cookiePairs, GoodCookie sk.since sk.idx c
  jarTag : ∀ c ∈ sk.cookiePairs, ∀ p ∈ c.provs, ∀ k, p = Prov.jar k → k = sk.idx
  idx : st.idx ≤ sk.idx
  le : sk.since ≤ sk.idx
  streak : (sk.since = st.since ∧ sk.url.origin = st.url.origin) ∨ st.idx < sk.since

/-- requests `sj … sk` inside one streak go to one origin -/
def Streaks (sent : List Sent) : Prop :=
  ∀ sj ∈ sent, ∀ sk ∈ sent, sk.since ≤ sj.idx → sj.idx ≤ sk.idx → sj.url.origin = sk.url.origin

/-- from the bounds `SentOk.wire` and `.pairs` give on a birth to the conclusion of the confinement theorems -/
theorem Streaks.confined {sent : List Sent} (hs : Streaks sent) {sk : Sent} (hk : sk ∈ sent) {p : Prov}
    (hb : sk.since ≤ p.birth ∧ p.birth ≤ sk.idx) :
    p.birth ≤ sk.idx ∧ ∀ sj ∈ sent, p.birth ≤ sj.idx → sj.idx ≤ sk.idx → sj.url.origin = sk.url.origin :=
  ⟨hb.2, fun sj hj h1 h2 => hs sj hj sk hk (Nat.le_trans hb.1 h1) h2⟩

structure Traced {σ : Type} (st : St σ) (sent : List Sent) : Prop where
  ok : ∀ sk ∈ sent, SentOk st sk
  streaks : Streaks sent

theorem trace_nil {σ : Type} (st : St σ) : Traced st [] :=
  ⟨fun _ h => (nomatch h), fun _ h => (nomatch h)⟩

/-- one iteration in front of a traced run that starts from `st'`, the state the iteration
leaves (same hop after a resend, next hop after a redirect) -/
theorem trace_cons {env : Env} {st st1 st' : St env.jar.σ} {s : Sent} {sent : List Sent}
    (hinv : Inv st) (ps : PrepSpec env st st1 s) (hle : st.idx ≤ st'.idx)
    (hst : (st'.since = st.since ∧ st'.url.origin = s.url.origin) ∨ st.idx < st'.since)
    (ih : Traced st' sent) : Traced st (s :: sent) := by
  have hs : SentOk st s :=
    { wire := ps.sSince ▸ ps.sIdx ▸ ps.wire, pairs := ps.sSince ▸ ps.sIdx ▸ ps.pairs
      jarTag := ps.sIdx ▸ ps.jarTag, idx := ps.sIdx ▸ Nat.le_refl _, le := ps.sSince ▸ ps.sIdx ▸ hinv.le
      streak := Or.inl ⟨ps.sSince, ps.sOrigin⟩ }
  have rebase : ∀ sk ∈ sent, SentOk st sk := fun sk hk =>
    have ok := ih.ok sk hk
    { ok with
      idx := Nat.le_trans hle ok.idx
      streak := by
        rcases ok.streak with ⟨e1, e2⟩ | e
        · rcases hst with ⟨f1, f2⟩ | f
          · exact Or.inl ⟨e1.trans f1, e2.trans (f2.trans ps.sOrigin)⟩
          · exact Or.inr (e1 ▸ f)
        · exact Or.inr (Nat.lt_of_le_of_lt hle e) }
  have all : ∀ sk ∈ s :: sent, SentOk st sk := List.forall_mem_cons.mpr ⟨hs, rebase⟩
  -- inside `st`'s own hop every request is in `st`'s streak, so goes to `s`'s origin
  have here : ∀ sk ∈ s :: sent, sk.since ≤ st.idx → sk.url.origin = s.url.origin := fun sk hk h =>
    (all sk hk).streak.elim (fun e => e.2.trans ps.sOrigin.symm) fun e => absurd h (Nat.not_le_of_lt e)
  refine ⟨all, fun sj hj sk hk h1 h2 => ?_⟩
  rcases List.mem_cons.mp hj with rfl | hj'
  · exact (here sk hk (ps.sIdx ▸ h1)).symm
  · rcases List.mem_cons.mp hk with rfl | hk'
    · have := (all sj hj).idx
      have := (all sj hj).le
      rw [ps.sIdx] at h2
      exact here sj hj (by omega)
    · exact ih.streaks sj hj' sk hk' h1 h2

theorem trace_single {env : Env} {st st1 : St env.jar.σ} {s : Sent} (hinv : Inv st) (ps : PrepSpec env st st1 s) :
    Traced st [s] :=
  trace_cons hinv ps (Nat.le_refl _) (Or.inl ⟨rfl, ps.sOrigin.symm⟩) (trace_nil st)

theorem runF_trace {env : Env} {cfg : Cfg} (chain : List Reply) (st : St env.jar.σ) (hinv : Inv st) :
    Traced st (runF env cfg st chain).sent := by
  fun_induction runF env cfg st chain
  case case1 st _ _ _ => exact trace_nil st
  case case2 hp => exact trace_single hinv (prepare_spec hinv hp)
  case case3 hp _ _ _ => exact trace_single hinv (prepare_spec hinv hp)
  case case4 st st1 s hp rest st1' hd res ih =>
    have ps := prepare_spec hinv hp
    obtain ⟨-, rfl⟩ := afterDrop_ok hd
    exact trace_cons (st' := { st1 with retry := false }) hinv ps (Nat.le_of_eq ps.idx.symm)
      (Or.inl ⟨ps.since, congrArg Url.origin ps.url⟩) (ih (ps.inv.retry false))
  case case5 hp _ _ _ _ _ => exact trace_single hinv (prepare_spec hinv hp)
  case case6 st st1 s hp r rest st2 evs hr res ih =>
    have ps := prepare_spec hinv hp
    have rs := react_spec ps.inv hr
    refine trace_cons hinv ps (by rw [rs.idx, ps.idx]; exact Nat.le_succ _) ?_ (ih rs.inv)
    exact rs.streak.imp (fun e => ⟨e.1.trans ps.since, e.2⟩) fun e => by rw [e, ps.idx]; exact Nat.lt_succ_self _

theorem run_trace {env : Env} {cfg : Cfg} (chain : List Resp) (st : St env.jar.σ) (hinv : Inv st) :
    Traced st (run env cfg st chain).sent :=
  runF_resp_eq_run chain st ▸ runF_trace _ st hinv

theorem runF_count {env : Env} {cfg : Cfg} (hmax : cfg.maxRedirects ≠ 0) (chain : List Reply) (st : St env.jar.σ)
    (hinv : Inv st) (hlt : st.redirects < cfg.maxRedirects) :
    (runF env cfg st chain).sent.length + st.redirects ≤ cfg.maxRedirects + (if st.retry then 1 else 0) := by
  fun_induction runF env cfg st chain
  case case1 => show 0 + _ ≤ _; omega
  case case2 => show 1 + _ ≤ _; omega
  case case3 => show 1 + _ ≤ _; omega
  case case4 st st1 s hp rest st1' hd res ih =>
    have ps := prepare_spec hinv hp
    obtain ⟨hr, rfl⟩ := afterDrop_ok hd
    have := ih (ps.inv.retry false) (show st1.redirects < _ from ps.redirects ▸ hlt)
    rw [show st.retry = true from ps.retry ▸ hr]
    simp only [res, List.length_cons, if_true, Bool.false_eq_true, if_false, ps.redirects] at this ⊢
    omega
  case case5 => show 1 + _ ≤ _; omega
  case case6 st st1 s hp r rest st2 evs hr res ih =>
    have ps := prepare_spec hinv hp
    have rs := react_spec ps.inv hr
    have := ih rs.inv (rs.redirects ▸ rs.bound.resolve_left hmax)
    rw [rs.redirects, ps.redirects, rs.retry, ps.retry] at this
    simp only [res, List.length_cons]
    omega

theorem dropsIn_succ (x : Reply) (rest : List Reply) (n : Nat) :
    dropsIn (x :: rest) (n + 1) = dropsIn rest n + (if x = .drop then 1 else 0) := by
  cases x <;> simp [dropsIn]

theorem runF_drops {env : Env} {cfg : Cfg} (chain : List Reply) (st : St env.jar.σ) (hinv : Inv st) :
    dropsIn chain (runF env cfg st chain).sent.length ≤
      (if st.retry then 1 else 0) + (if (runF env cfg st chain).out = .err .disconnected then 1 else 0) := by
  fun_induction runF env cfg st chain
  case case1 st chain _ _ => show dropsIn chain 0 ≤ _; exact Nat.zero_le _
  case case2 => exact Nat.zero_le _
  case case3 st st1 s hp rest e hd =>
    show dropsIn (.drop :: rest) (0 + 1) ≤ _
    rw [dropsIn_succ, if_pos rfl, afterDrop_error hd, if_pos rfl]; exact Nat.le_add_left _ _
  case case4 st st1 s hp rest st1' hd res ih =>
    have ps := prepare_spec hinv hp
    obtain ⟨hr, rfl⟩ := afterDrop_ok hd
    have := ih (ps.inv.retry false)
    rw [show st.retry = true from ps.retry ▸ hr]
    simp only [res, List.length_cons, dropsIn_succ, if_true, Bool.false_eq_true, if_false] at this ⊢
    omega
  case case5 st st1 s hp r rest out evs hr =>
    show dropsIn (.resp r :: rest) (0 + 1) ≤ _
    rw [dropsIn_succ]; exact Nat.zero_le _
  case case6 st st1 s hp r rest st2 evs hr res ih =>
    have ps := prepare_spec hinv hp
    have rs := react_spec ps.inv hr
    have := ih rs.inv
    rw [rs.retry, ps.retry] at this
    simp only [res, List.length_cons, dropsIn_succ, reduceCtorEq, if_false, Nat.add_zero]
    exact this

/-- `sk` is the request the loop makes after `r` answered `sj` -/
structure Follows (cfg : Cfg) (sj : Sent) (r : Resp) (sk : Sent) : Prop where
  redirect : isRedirect r.status = true ∧ cfg.allowRedirects = true
  url : ∃ u, r.loc = .ok u ∧ sk.url = { u with cred := none }
  method : sk.method = if toGet r.status sj.method then GET else sj.method
  data : sk.data = if toGet r.status sj.method then none else some (sj.data.getD emptyBody)
  body : wireBody sk.data false sk.headers = .ok sk.body

theorem run_follow {env : Env} {cfg : Cfg} (chain : List Resp) (st : St env.jar.σ) (hinv : Inv st) :
    (∀ s0, (run env cfg st chain).sent[0]? = some s0 → ∃ st1, PrepSpec env st st1 s0) ∧
    ∀ k sk, (run env cfg st chain).sent[k + 1]? = some sk →
      ∃ sj r, (run env cfg st chain).sent[k]? = some sj ∧ chain[k]? = some r ∧ Follows cfg sj r sk ∧
        sk.idx = k + 1 + st.idx := by
  fun_induction run env cfg st chain
  case case1 => exact ⟨fun _ h => (nomatch h), fun _ _ h => (nomatch h)⟩
  case case2 st st1 s hp =>
    exact ⟨fun _ h => by cases h; exact ⟨st1, prepare_spec hinv hp⟩, fun _ _ h => (nomatch h)⟩
  case case3 st st1 s hp _ _ _ _ _ =>
    exact ⟨fun _ h => by cases h; exact ⟨st1, prepare_spec hinv hp⟩, fun _ _ h => (nomatch h)⟩
  case case4 st st1 s hp r rest st2 evs hr res ih =>
    have ps := prepare_spec hinv hp
    have rs := react_spec ps.inv hr
    refine ⟨fun _ h => by cases h; exact ⟨st1, ps⟩, fun k sk h => ?_⟩
    cases k with
    | zero =>
      obtain ⟨st1', ps'⟩ := (ih rs.inv).1 sk h
      refine ⟨s, r, rfl, rfl, ?_, by rw [ps'.sIdx, rs.idx, ps.idx, Nat.add_comm]⟩
      exact {
        redirect := rs.isRedir
        url := ⟨st2.url, rs.target, ps'.sUrl⟩
        method := by rw [ps'.sMethod, rs.method, ps.method, ps.sMethod]
        data := by rw [ps'.sData, rs.data, ps.data, ps.sData]
        body := rs.fresh ▸ ps'.sBody }
    | succ k' =>
      obtain ⟨sj, r', hj, hr', hf, hidx⟩ := (ih rs.inv).2 k' sk h
      exact ⟨sj, r', hj, hr', hf, by rw [hidx, rs.idx, ps.idx]; omega⟩

theorem run_history {env : Env} {cfg : Cfg} (chain : List Resp) (st : St env.jar.σ) (hinv : Inv st)
    (hh : st.history = List.range st.idx) (f : Nat) (hist : List Nat) (h : (run env cfg st chain).out = .ok f hist) :
    st.idx ≤ f ∧ f + 1 = (run env cfg st chain).sent.length + st.idx ∧
    (∀ i, st.idx ≤ i → i < f → Ev.release i ∈ (run env cfg st chain).events) ∧
    ∃ r, chain[f - st.idx]? = some r ∧
      ((isRedirect r.status && cfg.allowRedirects) = false → hist = List.range f) ∧
      ((isRedirect r.status && cfg.allowRedirects) = true → r.loc = .none ∧ hist = List.range (f + 1)) := by
  fun_induction run env cfg st chain
  case case1 => cases h
  case case2 => cases h
  case case3 st st1 s hp r rest out evs hr =>
    have ps := prepare_spec hinv hp
    rcases react_stop hr with ⟨e, he, -⟩ | ⟨hist', ho, hcase⟩
    · cases he.symm.trans h
    cases ho.symm.trans h
    rw [ps.idx] at hcase ⊢
    rw [ps.history, hh, ← List.range_succ] at hcase
    exact ⟨Nat.le_refl _, Nat.add_comm _ _, fun i a b => absurd a (Nat.not_le_of_lt b), r,
      by rw [Nat.sub_self]; rfl, hcase⟩
  case case4 st st1 s hp r rest st2 evs hr res ih =>
    have ps := prepare_spec hinv hp
    have rs := react_spec ps.inv hr
    have hidx : st2.idx = st.idx + 1 := by rw [rs.idx, ps.idx]
    obtain ⟨b1, b2, b3, r', b4, b5⟩ := ih rs.inv
      (by rw [rs.history, rs.idx, ps.history, ps.idx, hh, List.range_succ]) h
    refine ⟨by omega, by simp only [res, List.length_cons]; omega, fun i a b => ?_, r', ?_, b5⟩
    · by_cases hi : i = st.idx
      · exact List.mem_append_left _ (by rw [rs.evs, ps.idx, hi]; exact List.mem_cons_self)
      · exact List.mem_append_right _ (b3 i (by omega) b)
    · rw [show f - st.idx = (f - st2.idx) + 1 by omega]; exact b4

theorem run_disposed {env : Env} {cfg : Cfg} (chain : List Resp) (st : St env.jar.σ) (hinv : Inv st)
    (hne : (run env cfg st chain).out ≠ .pending) (i : Nat) (h1 : st.idx ≤ i)
    (h2 : i < (run env cfg st chain).sent.length + st.idx) :
    Ev.release i ∈ (run env cfg st chain).events ∨ Ev.close i ∈ (run env cfg st chain).events ∨
      ∃ h, (run env cfg st chain).out = .ok i h := by
  fun_induction run env cfg st chain
  case case1 => exact absurd h2 (by show ¬ i < 0 + _; omega)
  case case2 => exact absurd rfl hne
  case case3 st st1 s hp r rest out evs hr =>
    have ps := prepare_spec hinv hp
    have hi : i = st1.idx := by rw [ps.idx]; have : i < 1 + st.idx := h2; omega
    rcases react_stop hr with ⟨e, -, hc⟩ | ⟨hist, ho, -⟩
    · exact Or.inr (Or.inl (hi ▸ hc))
    · exact Or.inr (Or.inr ⟨hist, hi ▸ ho⟩)
  case case4 st st1 s hp r rest st2 evs hr res ih =>
    have ps := prepare_spec hinv hp
    have rs := react_spec ps.inv hr
    have hidx : st2.idx = st.idx + 1 := by rw [rs.idx, ps.idx]
    by_cases hi : i = st.idx
    · exact Or.inl (List.mem_append_left _ (by rw [rs.evs, ps.idx, hi]; exact List.mem_cons_self))
    · have h2' : i < (run env cfg st2 rest).sent.length + 1 + st.idx := h2
      exact (ih rs.inv hne (by omega) (by omega)).imp (List.mem_append_right _) (Or.imp_left (List.mem_append_right _))

theorem run_jar {env : Env} {cfg : Cfg} (chain : List Resp) (st : St env.jar.σ) (hinv : Inv st) (k : Nat) (sk : Sent)
    (h : (run env cfg st chain).sent[k]? = some sk) :
    sk.jarSel = env.jar.filter (jarAfter env st.jar ((run env cfg st chain).sent.take k) (chain.take k)) sk.url := by
  fun_induction run env cfg st chain generalizing k
  case case1 => cases h
  case case2 st st1 s hp =>
    cases k with
    | zero => cases h; exact (prepare_spec hinv hp).sJar
    | succ k => cases h
  case case3 st st1 s hp _ _ _ _ _ =>
    cases k with
    | zero => cases h; exact (prepare_spec hinv hp).sJar
    | succ k => cases h
  case case4 st st1 s hp r rest st2 evs hr res ih =>
    have ps := prepare_spec hinv hp
    cases k with
    | zero => cases h; exact ps.sJar
    | succ k =>
      have rs := react_spec ps.inv hr
      rw [ih rs.inv k h, rs.jar, ps.jar]; rfl

/-! ## netrc credentials belong to the host of the request that carries them -/

/-- a header with a netrc provenance is an `Authorization` header whose value is the netrc entry of `host` -/
def NetrcP (env : Env) (host : Str) (x : Hdr) : Prop :=
  ∀ k, Prov.netrc k ∈ x.provs → ciEq x.name AUTHORIZATION = true ∧ env.netrc host = some x.value

theorem AuthAt.netrc {env : Env} {st : St env.jar.σ} {x : Hdr} (h : AuthAt env st x) :
    NetrcP env st.url.origin.host x := by
  intro k hk
  rcases h.2 with h1 | ⟨-, h1⟩
  · rw [h1] at hk; cases List.mem_singleton.mp hk
  · exact ⟨by rw [h.1]; exact beq_self_eq_true _, h1⟩

theorem ciEq_false_of {a n b : Str} (hn : ciEq a n = true) (hne : ciEq n b = false) : ciEq a b = false := by
  simp [ciEq] at *
  rw [hn]; exact hne

theorem prepare_netrc {env : Env} {cfg : Cfg} {st st1 : St env.jar.σ} {s : Sent}
    (ht : ∀ x ∈ st.headers, NetrcP env st.url.origin.host x) (h : prepare env cfg st = .ok (st1, s)) :
    (∀ x ∈ s.headers, NetrcP env s.url.origin.host x) ∧ (∀ x ∈ st1.headers, NetrcP env s.url.origin.host x) ∧
      st1.url = s.url := by
  obtain ⟨hs, h5, pairs, body, hfrom, hpairs, hwire, -, rfl, rfl⟩ := prepare_eq h
  have hhs : ∀ x ∈ hs, NetrcP env st.url.origin.host x := fun x hx => (hfrom x hx).elim (ht x) AuthAt.netrc
  -- a header of `hs` named like `n`, where `n` is not `Authorization`, has no netrc provenance
  have other {n : Str} (hn : ciEq n AUTHORIZATION = false) (y : Hdr) (hy : y ∈ hs) (hyn : ciEq y.name n = true)
      (k : Nat) : Prov.netrc k ∉ y.provs := fun hk => by
    have := (hhs y hy k hk).1
    rw [ciEq_false_of hyn hn] at this; cases this
  refine ⟨fun x hx k hk => ?_, fun x hx => hhs x (mem_of_mem_popFirst hx), rfl⟩
  rcases hwire x hx _ hk with h1 | ⟨-, y, hy, hn, hpy⟩ | ⟨-, c, hc, hpc⟩
  · exact hhs x h1 k hk
  · exact absurd hpy (other (by decide) y hy hn k)
  · rcases hpairs c hc _ hpc with ⟨z, hz, hn, hpz⟩ | h1 | ⟨h1, -⟩
    · exact absurd hpz (other (by decide) z hz hn k)
    · cases h1
    · cases h1

theorem react_netrc {env : Env} {cfg : Cfg} {st1 st2 : St env.jar.σ} {s : Sent} {r : Resp} {evs : List Ev}
    (ht : ∀ x ∈ st1.headers, NetrcP env s.url.origin.host x) (h : react env cfg st1 s r = .continue st2 evs) :
    ∀ x ∈ st2.headers, NetrcP env st2.url.origin.host x := by
  obtain ⟨hsub, ⟨-, -, ho⟩ | ⟨-, -, hno⟩⟩ := react_headers h
  · rw [ho]; exact fun x hx => ht x (hsub x hx)
  · intro x hx k hk
    have h1 := (ht x (hsub x hx) k hk).1
    have h2 := hno x hx
    rw [isSecretName, h1] at h2; cases h2

theorem runF_netrc {env : Env} {cfg : Cfg} (chain : List Reply) (st : St env.jar.σ)
    (ht : ∀ x ∈ st.headers, NetrcP env st.url.origin.host x) :
    ∀ sk ∈ (runF env cfg st chain).sent, ∀ x ∈ sk.headers, NetrcP env sk.url.origin.host x := by
  fun_induction runF env cfg st chain
  case case1 => exact fun _ h => nomatch h
  case case2 hp => exact List.forall_mem_singleton.mpr (prepare_netrc ht hp).1
  case case3 hp _ _ _ => exact List.forall_mem_singleton.mpr (prepare_netrc ht hp).1
  case case4 st st1 s hp rest st1' hd res ih =>
    obtain ⟨a, b, c⟩ := prepare_netrc ht hp
    obtain ⟨-, rfl⟩ := afterDrop_ok hd
    exact List.forall_mem_cons.mpr
      ⟨a, ih (show ∀ x ∈ st1.headers, NetrcP env st1.url.origin.host x from c ▸ b)⟩
  case case5 hp _ _ _ _ _ => exact List.forall_mem_singleton.mpr (prepare_netrc ht hp).1
  case case6 st st1 s hp r rest st2 evs hr res ih =>
    obtain ⟨a, b, -⟩ := prepare_netrc ht hp
    exact List.forall_mem_cons.mpr ⟨a, ih (react_netrc b hr)⟩

/-! ## before the loop: every header is the caller's -/

theorem mem_prepareHeaders {d c : List Hdr} {x : Hdr} (hx : x ∈ prepareHeaders d c) : x ∈ d ∨ x ∈ c := by
  unfold prepareHeaders at hx
  generalize ([] : List Str) = seen at hx
  induction c generalizing d seen with
  | nil => exact Or.inl hx
  | cons y t ih =>
    rw [List.foldl_cons] at hx
    split at hx
    · rcases ih _ hx with h1 | h1
      · exact (List.mem_append.mp h1).imp_right fun h2 => by rw [List.mem_singleton.mp h2]; exact List.mem_cons_self
      · exact Or.inr (List.mem_cons_of_mem _ h1)
    · rcases ih _ hx with h1 | h1
      · exact (mem_setHdr h1).symm.imp_right fun h2 => by rw [h2]; exact List.mem_cons_self
      · exact Or.inr (List.mem_cons_of_mem _ h1)

theorem prepareHeaders_caller (defaults headers : List (Str × Str)) :
    ∀ x ∈ prepareHeaders (defaults.map callerHdr) (headers.map callerHdr), x.provs = [.caller] := by
  intro x hx
  rcases mem_prepareHeaders hx with h1 | h1 <;>
  · obtain ⟨nv, _, rfl⟩ := List.mem_map.mp h1
    rfl

section
variable (env : Env) (cfg : Cfg) (url : Url) (params : Option Str) (method : Str) (defaults headers : List (Str × Str))
  (cookies : Option (List (Str × Str))) (data : Option Body) (jar0 : env.jar.σ)

theorem init_inv : Inv (init env url params method defaults headers cookies data jar0) where
  hdrs x hx _ p hp := by
    rw [prepareHeaders_caller defaults headers x hx] at hp
    cases List.mem_singleton.mp hp
    exact ⟨Nat.le_refl _, Nat.le_refl _⟩
  noJar x hx p hp k := by
    rw [prepareHeaders_caller defaults headers x hx] at hp
    cases List.mem_singleton.mp hp
    nofun
  cookies _ := rfl
  le := Nat.le_refl _

theorem initF_inv : Inv (initF env cfg url params method defaults headers cookies data jar0) :=
  (init_inv env url params method defaults headers cookies data jar0).retry _

theorem initF_netrc (host : Str) :
    ∀ x ∈ (initF env cfg url params method defaults headers cookies data jar0).headers, NetrcP env host x := by
  intro x hx k hk
  rw [prepareHeaders_caller defaults headers x hx] at hk
  cases List.mem_singleton.mp hk

end

end Aio.C17
