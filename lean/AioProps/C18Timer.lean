import AioModel.C18Timer
/-! C18 — theorems about the `TimerContext` cancel-counter machine (AioModel/C18Timer.lean). -/
namespace Aio.C18

def nExt : List TOp → Nat
  | [] => 0
  | .ext :: t => nExt t + 1
  | .fire :: t => nExt t
def hasFire : List TOp → Bool
  | [] => false
  | .fire :: _ => true
  | .ext :: t => hasFire t

theorem fold_op_spec (ops : List TOp) (s : TC) :
    (ops.foldl TC.op s).base = s.base ∧ (ops.foldl TC.op s).fired = (s.fired || hasFire ops) ∧
    (ops.foldl TC.op s).count = s.count + nExt ops + (!s.fired && hasFire ops).toNat := by
  induction ops generalizing s with
  | nil => simp [nExt, hasFire]
  | cons o os ih =>
    obtain ⟨h1, h2, h3⟩ := ih (s.op o)
    rw [List.foldl_cons, h1, h2, h3]
    cases o <;> cases hf : s.fired <;> simp [TC.op, hf, nExt, hasFire] <;> omega

theorem exit1_spec (c ext : Nat) (fired : Bool) (s : TC) (hb : s.base = c) (hf : s.fired = fired)
    (hc : s.count = c + ext + fired.toNat) :
    (s.exit1 (if s.count > c then .cancelled else .result)).2 =
        (if ext > 0 then .cancelled else if fired then .timeout else .result) ∧
    (s.exit1 (if s.count > c then .cancelled else .result)).1.count = c + ext := by
  unfold TC.exit1
  -- not fired: the exit passes `r` on; fired: the timer's own request is taken back first
  cases fired <;> simp [hf, hc, hb]
  rw [if_pos (by omega)]
  split <;> exact ⟨rfl, rfl⟩

/-- **TimerContext (single context).** For every earlier-handled cancel count `c` and every
interleaving `ops` of the timer's cancel and external `Task.cancel()` calls while the task is parked:
the exit raises `TimeoutError` iff the timer fired and nobody else cancelled; it lets
`CancelledError` through iff somebody else cancelled; and the task's cancel count afterwards is
the count before plus the external requests — the timer's own request is always taken back, so a
pure timeout restores `task.cancelling()` exactly. -/
theorem tc_exit_spec (c : Nat) (ops : List TOp) :
    (tcRun c 1 ops).1 = (if nExt ops > 0 then .cancelled else if hasFire ops then .timeout else .result) ∧
    (tcRun c 1 ops).2 = c + nExt ops := by
  obtain ⟨hb, hf, hc⟩ := fold_op_spec ops ({ count := c, base := c } : TC)
  have := exit1_spec c (nExt ops) (hasFire ops) _ hb (by simpa using hf) (by simpa using hc)
  simpa [tcRun, List.range_one, TC.enter, TC.exits] using this

/-- a genuine caller cancellation is never swallowed by a single context -/
theorem tc_caller_cancel_surfaces (c : Nat) (ops : List TOp) (h : TOp.ext ∈ ops) :
    (tcRun c 1 ops).1 = .cancelled := by
  have : nExt ops > 0 := by
    fun_induction nExt ops with
    | case1 => cases h
    | case2 => exact Nat.succ_pos _
    | case3 _ ih => exact ih ((List.mem_cons.1 h).resolve_left nofun)
  rw [(tc_exit_spec c ops).1, if_pos this]

/-- the nested contexts of `_request` and `ClientResponse.start` share the task and the flag: both
exits call `uncancel()`, so ONE external cancellation coinciding with the timeout is swallowed
(TimeoutError, count back to `c`) — the behaviour of the code, reported as a finding -/
theorem tc_nested_swallows_one_cancel (c : Nat) : tcRun c 2 [.ext, .fire] = (.timeout, c) := by
  have h1 : c < c + 1 + 1 := by omega
  have h2 : ¬ (c < c) := by omega
  simp [tcRun, List.range, List.range.loop, TC.enter, TC.op, TC.exits, TC.exit1, h1, h2]

end Aio.C18
