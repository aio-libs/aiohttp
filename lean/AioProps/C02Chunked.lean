import AioProps.C03Chunked
import AioProps.C02
/-!
# C02: the receiver's chunked parser decodes what the sender's chunked writer emits

`C04.chunked_wire` shows that the bytes a `StreamWriter` in chunked mode puts on the wire are
`encodeChunks ds ++ lastChunk`.  Here: `Aio.Http.payloadFeed` (the model of
`HttpPayloadParser.feed_data`, strict *and* lax) on those bytes followed by anything (`rest`, e.g.
the next message) completes the body, leaves exactly `rest`, and delivers exactly the data
written.
-/
namespace Aio.Http
open Aio

/-- a body-parser state at a chunk boundary, before any trailer line -/
structure AtSize (p : PState) : Prop where
  cs : p.cstate = .size
  tl : p.trailerLines = []
  -- the blank line that ends the trailer section counts against `max_trailers`
  mt : 1 ≤ p.maxTrailers

/-- every frame's size line fits the line limit (`hex(len)` plus its CR) -/
def FramesFit (cfg : Cfg) (ds : List Bytes) : Prop := ∀ d ∈ ds, (toHex d.length).length + 1 ≤ cfg.maxLine

theorem toHex_bytes (n : Nat) :
    ∀ b ∈ toHex n, isHexB b = true ∧ isBytesWs b = false ∧ b ≠ 59 ∧ b ≠ 10 :=
  toHex_all (fun b => isHexB b = true ∧ isBytesWs b = false ∧ b ≠ 59 ∧ b ≠ 10) (by decide +kernel) n

theorem findCRLF_prefix (x Y : Bytes) (h : (13 : UInt8) ∉ x) : findCRLF (x ++ 13 :: 10 :: Y) = some x.length := by
  induction x with
  | nil => simp [findCRLF]
  | cons b t ih =>
    simp only [List.mem_cons, not_or] at h
    cases hh : t ++ 13 :: 10 :: Y with
    | nil => simp at hh
    | cons y ys =>
      simp only [List.cons_append, hh, findCRLF]
      rw [← hh, ih h.2]
      simp [Ne.symm h.1]

theorem findByte_prefix (c : UInt8) (x Y : Bytes) (h : c ∉ x) : findByte c (x ++ c :: Y) = some x.length := by
  induction x with
  | nil => simp [findByte]
  | cons b t ih =>
    simp only [List.mem_cons, not_or] at h
    simp [findByte, Ne.symm h.1, ih h.2]

theorem findByte_none_of_not_mem (c : UInt8) (x : Bytes) (h : c ∉ x) : findByte c x = none := by
  induction x with
  | nil => rfl
  | cons b t ih =>
    simp only [List.mem_cons, not_or] at h
    simp [findByte, Ne.symm h.1, ih h.2]

theorem lstrip_id (p : UInt8 → Bool) (x : Bytes) (h : ∀ b ∈ x, p b = false) : lstrip p x = x := by
  cases x with
  | nil => rfl
  | cons b t => simp [lstrip, h b]

theorem strip_snoc (p : UInt8 → Bool) (x : Bytes) (c : UInt8) (hx : ∀ b ∈ x, p b = false) (hne : x ≠ [])
    (hc : p c = true) : strip p (x ++ [c]) = x := by
  have hl : lstrip p (x ++ [c]) = x ++ [c] := by
    cases x with
    | nil => exact absurd rfl hne
    | cons b t => simp [lstrip, hx b]
  simp [strip, rstrip, hl, lstrip, hc, lstrip_id p x.reverse (by simpa using hx)]

/-- the chunk-size line the writer produces (`toHex n`, in lax mode seen with its CR) reads as `n` -/
theorem chunkSizeOf_toHex (cfg : Cfg) (n : Nat) :
    chunkSizeOf cfg (if cfg.lax then toHex n ++ [13] else toHex n) = some n := by
  have hsemi : (59 : UInt8) ∉ toHex n := fun h => (toHex_bytes n 59 h).2.2.1 rfl
  have hhex : (toHex n).all isHexB = true := List.all_eq_true.mpr fun b hb => (toHex_bytes n b hb).1
  have hempty : (toHex n).isEmpty = false := by simpa using toHex_ne_nil n
  unfold chunkSizeOf
  cases hl : cfg.lax
  · simp only [Bool.false_eq_true, if_false]
    rw [findByte_none_of_not_mem 59 _ hsemi]
    simp [hempty, hhex, ofHex_toHex]
  · simp only [if_true]
    rw [findByte_none_of_not_mem 59 (toHex n ++ [13]) (by simp [hsemi])]
    simp [strip_snoc isBytesWs _ 13 (fun b hb => (toHex_bytes n b hb).2.1) (toHex_ne_nil n) (by decide),
      hempty, hhex, ofHex_toHex]

/-- A CRLF-terminated line without CR or LF inside, as the parser cuts it: in lax mode the
separator is the LF and the CR stays on the line. -/
theorem findSep_line (lax : Bool) (x Y : Bytes) (hcr : (13 : UInt8) ∉ x) (hlf : (10 : UInt8) ∉ x) :
    findSep lax (x ++ 13 :: 10 :: Y) = some (x.length + if lax then 1 else 0) ∧
    (x ++ 13 :: 10 :: Y).take (x.length + if lax then 1 else 0) = (if lax then x ++ [13] else x) ∧
    (x ++ 13 :: 10 :: Y).drop (x.length + (if lax then 1 else 0) + sepLen lax) = Y := by
  cases lax
  · simp [findSep, sepLen, findCRLF_prefix x Y hcr]
  · have h : (10 : UInt8) ∉ x ++ [13] := by simp [hlf]
    have := findByte_prefix 10 (x ++ [13]) Y h
    simp only [List.append_assoc, List.cons_append, List.nil_append] at this
    have e2 : x.length + 1 + 1 - x.length = 2 := by omega
    simp [findSep, sepLen, this, List.take_append, List.drop_append, e2]
    exact ⟨List.take_of_length_le (by omega), by omega⟩

theorem chunkEofStep_crlf (cfg : Cfg) (k : LoopK) (p : PState) (Y : Bytes) (evs : List Ev) :
    chunkEofStep cfg k p (13 :: 10 :: Y) evs = k { p with cstate := .size } Y evs := by
  unfold chunkEofStep
  cases cfg.lax <;> simp [skipCR, sepLen, sepBytes]

theorem chunkedLoop_sizeLine (cfg : Cfg) (f : Nat) (p : PState) (n : Nat) (Y : Bytes) (evs : List Ev)
    (hcs : p.cstate = .size) (hfit : (toHex n).length + 1 ≤ cfg.maxLine) :
    chunkedLoop cfg (f + 1) p (toHex n ++ 13 :: 10 :: Y) evs =
      if n == 0 then trailersStep cfg (chunkedLoop cfg f) { p with cstate := .trailers } Y evs
      else chunkStep cfg (chunkedLoop cfg f) { p with cstate := .chunk, chunkSize := n } Y
        (evs ++ [.beginChunk]) := by
  have hlf : (10 : UInt8) ∉ toHex n := fun h => (toHex_bytes _ 10 h).2.2.2 rfl
  obtain ⟨hf, ht, hdr⟩ := findSep_line cfg.lax (toHex n) Y (toHex_no_cr _) hlf
  have h1 : ¬ ((toHex n).length + (if cfg.lax then 1 else 0) > cfg.maxLine) := by split <;> omega
  rw [chunkedLoop_size cfg f p _ evs (by simp) hcs]
  unfold sizeStep
  simp only [hf, ht, hdr, chunkSizeOf_toHex, h1, if_false]

theorem chunkedLoop_frame (cfg : Cfg) (f : Nat) (p : PState) (d Y : Bytes) (evs : List Ev)
    (hp : AtSize p) (hd : d ≠ []) (hfit : (toHex d.length).length + 1 ≤ cfg.maxLine) :
    ∃ p', AtSize p' ∧ chunkedLoop cfg (f + 1) p (C04.chunkFrame d ++ Y) evs =
      chunkedLoop cfg f p' Y (evs ++ [.beginChunk] ++ dataEv d ++ [.endChunk]) := by
  have hn : (d.length == 0) = false := by
    simpa using fun h0 => hd (List.eq_nil_of_length_eq_zero h0)
  have h3 : d.length - (d ++ 13 :: 10 :: Y).length = 0 := by simp
  refine ⟨{ p with cstate := .size, chunkSize := 0 }, ⟨rfl, hp.tl, hp.mt⟩, ?_⟩
  rw [C04.chunkFrame_append, chunkedLoop_sizeLine cfg f p _ _ evs hp.cs hfit, hn]
  unfold chunkStep
  simp only [h3, List.take_left', List.drop_left', bne_self_eq_false, Bool.false_eq_true, if_false,
    chunkEofStep_crlf]

theorem trailer_blank (lax : Bool) :
    trailerLine lax (if lax then [13] else []) = [] ∧ trailerRawLen lax (if lax then [13] else []) = 0 := by
  cases lax <;> simp [trailerLine, trailerRawLen, rstrip, lstrip]

theorem chunkedLoop_lastChunk (cfg : Cfg) (f : Nat) (p : PState) (rest : Bytes) (evs : List Ev)
    (hp : AtSize p) (hml : 2 ≤ cfg.maxLine) :
    chunkedLoop cfg (f + 1) p (C04.lastChunk ++ rest) evs = (.complete rest, evs ++ [.eof]) := by
  obtain ⟨hf, ht, hdr⟩ := findSep_line cfg.lax [] rest (by simp) (by simp)
  simp only [List.nil_append, List.length_nil, Nat.zero_add] at hf ht hdr
  have := hp.mt
  have e : C04.lastChunk ++ rest = toHex 0 ++ 13 :: 10 :: (13 :: 10 :: rest) := by
    rw [toHex_zero]
    rfl
  -- the size line is `0`, in lax mode with its CR: two bytes
  rw [e, chunkedLoop_sizeLine cfg f p 0 _ evs hp.cs (by rw [toHex_zero]; exact hml)]
  unfold trailersStep
  simp only [hf, ht, hdr, trailer_blank, hp.tl]
  simp [parseHeaders, parseHeaderLines]
  omega

theorem dataOf_append (a b : List Ev) : dataOf (a ++ b) = dataOf a ++ dataOf b := by
  induction a with
  | nil => rfl
  | cons e t ih => cases e <;> simp [dataOf, ih]

theorem chunkedLoop_encodeChunks (cfg : Cfg) (rest : Bytes) (hml : 2 ≤ cfg.maxLine) (ds : List Bytes) (f : Nat)
    (p : PState) (evs : List Ev) (hp : AtSize p) (hfit : FramesFit cfg ds)
    (hf : (C04.encodeChunks ds ++ C04.lastChunk ++ rest).length < f) :
    ∃ E, chunkedLoop cfg f p (C04.encodeChunks ds ++ C04.lastChunk ++ rest) evs = (.complete rest, evs ++ E) ∧
      dataOf E = ds.flatten := by
  induction ds generalizing f p evs with
  | nil =>
    cases f with
    | zero => omega
    | succ n =>
      refine ⟨[.eof], ?_, rfl⟩
      simpa [C04.encodeChunks] using chunkedLoop_lastChunk cfg n p rest evs hp hml
  | cons d ds ih =>
    have hfit' : FramesFit cfg ds := fun x hx => hfit x (List.mem_cons_of_mem _ hx)
    by_cases hd : d = []
    · subst hd
      rw [C04.encodeChunks_nil_cons] at hf ⊢
      simpa using ih f p evs hp hfit' hf
    · rw [C04.encodeChunks_cons d ds hd, List.append_assoc, List.append_assoc] at hf ⊢
      have hlen := C04.chunkFrame_pos d
      cases f with
      | zero => omega
      | succ n =>
        obtain ⟨p', hp', hstep⟩ := chunkedLoop_frame cfg n p d _ evs hp hd (hfit d (List.mem_cons_self ..))
        rw [hstep, ← List.append_assoc]
        obtain ⟨E, hE, hdata⟩ := ih n p' (evs ++ [.beginChunk] ++ dataEv d ++ [.endChunk]) hp' hfit'
          (by simp at hf ⊢; omega)
        refine ⟨[.beginChunk] ++ dataEv d ++ [.endChunk] ++ E, ?_, ?_⟩
        · rw [hE]; simp
        · simp [dataOf, dataOf_dataEv, hdata]

/-- **Receiver ∘ sender = identity for chunked bodies.** The body parser at the start of a
chunked body (strict or lax), fed in one call the bytes a chunked `StreamWriter` produces for the
writes `ds` (`encodeChunks ds ++ lastChunk`, see `C04.chunked_wire`) followed by any bytes
`rest`: the body is complete, exactly `rest` is left for the next message, and the data
delivered is exactly the data written. -/
theorem payloadFeed_encodeChunks (cfg : Cfg) (p : PState) (ds : List Bytes) (rest : Bytes)
    (ht : p.type = .chunked) (htl : p.tail = []) (hp : AtSize p) (hml : 2 ≤ cfg.maxLine) (hfit : FramesFit cfg ds) :
    ∃ E, payloadFeed cfg p (C04.encodeChunks ds ++ C04.lastChunk ++ rest) = (.complete rest, E) ∧
      dataOf E = ds.flatten := by
  rw [payloadFeed_chunked cfg p _ ht]
  have hnt : chunkTailTooLong cfg p = false := by simp [chunkTailTooLong, htl]
  simp only [hnt, Bool.false_eq_true, if_false, htl, List.nil_append]
  obtain ⟨E, hE, hd⟩ := chunkedLoop_encodeChunks cfg rest hml ds _ { p with tail := [] } [] ⟨hp.cs, hp.tl, hp.mt⟩ hfit
    (Nat.lt_succ_self _)
  exact ⟨E, by simpa using hE, hd⟩

end Aio.Http

namespace Aio.C02
open Aio

/-- **Round trip of a chunked body, sender to receiver (full).**  The writer as
`_prepare_headers` leaves it in chunked mode, any program of `write`/`send_headers` calls ended
by `write_eof(d)` / `set_eof()`: the wire carries the header block and then a body which the
*receiver's own chunked parser* (`HttpPayloadParser.feed_data`, strict or lax, at the start of a
chunked body) turns into exactly the data written, reporting the body complete and leaving
whatever follows (`rest`, e.g. the next message on the connection) untouched.  Side conditions:
each written chunk's size line fits the receiver's line limit (`hex(len)` + 1 ≤ `max_line_size`;
with the default 8190 that is every chunk shorter than 16^8189 bytes), `max_line_size ≥ 2`, and
room for at least the blank trailer line. By `resp_framing_agree` the receiver expects a chunked
body exactly when the sender's decision layer chose chunked framing. -/
theorem response_roundtrip_chunked (cfg : Http.Cfg) (hb : Bytes) (ops : List C04.BodyOp) (fin : Option Bytes)
    (rest : Bytes) (p : Http.PState) (hhb : hb ≠ [])
    (ht : p.type = .chunked) (htl : p.tail = []) (hp : Http.AtSize p) (hml : 2 ≤ cfg.maxLine)
    (hfit : Http.FramesFit cfg (C04.writtenChunks ops fin)) :
    let r := C04.run (mkWriter none true hb) (ops.map C04.BodyOp.toOp ++ [C04.finOp fin])
    ∃ body E, r.1.out = hb ++ body ∧ r.1.eof = true ∧ (∀ e ∈ r.2, e = none) ∧
      Http.payloadFeed cfg p (body ++ rest) = (.complete rest, E) ∧
      Http.dataOf E = (ops.map C04.BodyOp.data).flatten ++ fin.getD [] := by
  intro r
  obtain ⟨h1, h2, h3⟩ := C04.chunked_wire _ (mkWriter_chunkedReady hb hhb) ops fin
  rw [flushed_mkWriter _ _ _ hhb] at h1
  obtain ⟨E, hE, hd⟩ := Http.payloadFeed_encodeChunks cfg p (C04.writtenChunks ops fin) rest ht htl hp hml hfit
  refine ⟨_, E, h1, h2, h3, hE, ?_⟩
  rw [hd]
  cases fin <;> simp [C04.writtenChunks]

/-- Non-vacuity: the default strict parser at the start of a chunked body and a 3-byte write meet
the hypotheses of `response_roundtrip_chunked`. -/
example : Http.AtSize ({ type := .chunked, maxTrailers := 100 } : Http.PState) ∧
    2 ≤ ({} : Http.Cfg).maxLine ∧ Http.FramesFit {} (C04.writtenChunks [.write [1, 2, 3]] none) := by
  refine ⟨⟨rfl, rfl, by decide⟩, by decide, ?_⟩
  intro d hd
  simp [C04.writtenChunks, C04.BodyOp.data] at hd
  subst hd
  rw [toHex]
  decide
end Aio.C02
