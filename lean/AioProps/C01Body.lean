import AioProps.C01Run
/-!
# C01: an accepted chunked body is a strict RFC 9112 reading

`Body s n input rest data trailers` is the strict grammar of what remains of a chunked body when the
parser is in chunk-state `s` (with `n` bytes of the current chunk outstanding):

    chunked-body = *( size-line CRLF chunk-data CRLF ) last-size-line CRLF *( trailer-line CRLF ) CRLF

where a size line is `1*HEXDIG [ ";" ext ]` (no LF and no CR in the extension), the
chunk data has exactly the announced length, and trailer lines contain no CRLF.
`chunked_body_is_strict`: whenever the strict parser completes a chunked body in one call, the
bytes it consumed are such a reading, what it hands back is exactly the rest, and the body bytes
it delivered are exactly the concatenation of the chunk data.
-/
namespace Aio.Http
open Aio

/-- a strict chunk-size line with value `n` -/
def SizeLine (line : Bytes) (n : Nat) : Prop :=
  findCRLF line = none ∧
  ∃ digits ext, line = digits ++ ext ∧ digits ≠ [] ∧ (∀ b ∈ digits, isHexB b = true) ∧
    ofHex digits = some n ∧ (ext = [] ∨ (ext.head? = some 59 ∧ (10 : UInt8) ∉ ext ∧ (13 : UInt8) ∉ ext))

/-- `Body s n input rest data trailers` -/
inductive Body : CState → Nat → Bytes → Bytes → Bytes → List Bytes → Prop
  | sizeChunk (k : Nat) (line : Bytes) (n : Nat) (inp rest d : Bytes) (tls : List Bytes) :
      SizeLine line n → n ≠ 0 → Body .chunk n inp rest d tls → Body .size k (line ++ 13 :: 10 :: inp) rest d tls
  | sizeLast (k : Nat) (line : Bytes) (inp rest d : Bytes) (tls : List Bytes) :
      SizeLine line 0 → Body .trailers 0 inp rest d tls → Body .size k (line ++ 13 :: 10 :: inp) rest d tls
  | chunk (n : Nat) (x inp rest d : Bytes) (tls : List Bytes) :
      x.length = n → Body .chunkEof 0 inp rest d tls → Body .chunk n (x ++ inp) rest (x ++ d) tls
  | chunkEof (k : Nat) (inp rest d : Bytes) (tls : List Bytes) :
      Body .size 0 inp rest d tls → Body .chunkEof k (13 :: 10 :: inp) rest d tls
  | trailerLine (k : Nat) (line inp rest d : Bytes) (tls : List Bytes) :
      line ≠ [] → findCRLF line = none → Body .trailers 0 inp rest d tls →
      Body .trailers k (line ++ 13 :: 10 :: inp) rest d (line :: tls)
  | trailersEnd (k : Nat) (rest : Bytes) : Body .trailers k (13 :: 10 :: rest) rest [] []

def dataOfAcc (evs evs' : List Ev) (d : Bytes) : Prop := dataOf evs' = dataOf evs ++ d

/-- `c` is a strict remainder of a chunked body followed by `rest`; `tl0` are the trailer lines collected earlier -/
def Reads (s : CState) (n : Nat) (tl0 : List Bytes) (c rest : Bytes) (evs evs' : List Ev) : Prop :=
  ∃ d tls, Body s n c rest d tls ∧ dataOf evs' = dataOf evs ++ d ∧ ∃ hs, FieldsOf (tl0 ++ tls ++ [[]]) hs

/-- the continuation, when it completes, has read a strict remainder -/
def KBody (k : LoopK) : Prop :=
  ∀ p c evs rest evs', k p c evs = (.complete rest, evs') → Reads p.cstate p.chunkSize p.trailerLines c rest evs evs'

/-- the chunk-state index `n` matters only in state `chunk` -/
theorem Body.reindex {s : CState} {n m : Nat} {inp rest d : Bytes} {tls : List Bytes} (hs : s ≠ .chunk)
    (h : Body s n inp rest d tls) : Body s m inp rest d tls := by
  cases h with
  | sizeChunk k line n' inp' rest d tls h1 h2 h3 => exact .sizeChunk m line n' inp' rest d tls h1 h2 h3
  | sizeLast k line inp' rest d tls h1 h2 => exact .sizeLast m line inp' rest d tls h1 h2
  | chunk n' x inp' rest d tls h1 h2 => exact absurd rfl hs
  | chunkEof k inp' rest d tls h1 => exact .chunkEof m inp' rest d tls h1
  | trailerLine k line inp' rest d tls h1 h2 h3 => exact .trailerLine m line inp' rest d tls h1 h2 h3
  | trailersEnd k rest => exact .trailersEnd m rest

/-- **An accepted chunk-size line is strict** (strict mode): `1*HEXDIG`, optionally followed by
a chunk extension that starts with `;` and contains neither LF nor CR; the size is the value of
the digits. -/
theorem chunk_size_line_strict (cfg : Cfg) (hs : cfg.lax = false) (line : Bytes) (n : Nat)
    (h : chunkSizeOf cfg line = some n) :
    ∃ digits ext, line = digits ++ ext ∧ digits ≠ [] ∧ (∀ b ∈ digits, isHexB b = true) ∧
      ofHex digits = some n ∧ (ext = [] ∨ (ext.head? = some 59 ∧ (10 : UInt8) ∉ ext ∧ (13 : UInt8) ∉ ext)) := by
  have hdig : ∀ {digits : Bytes}, (if (digits.isEmpty || !digits.all isHexB) = true then none else ofHex digits) = some n →
      digits ≠ [] ∧ (∀ b ∈ digits, isHexB b = true) ∧ ofHex digits = some n := fun {digits} h => by
    obtain ⟨hc, h⟩ := ite_cases_ne h nofun
    · simp only [Bool.or_eq_true, not_or, Bool.not_eq_true, List.isEmpty_eq_false_iff, List.all_eq_true, Bool.not_eq_eq_eq_not, Bool.not_true, Bool.not_eq_false] at hc
      exact ⟨hc.1, hc.2, h⟩
  unfold chunkSizeOf at h
  simp only [hs, Bool.false_eq_true, if_false] at h
  cases hf : findByte 59 line with
  | none =>
    simp only [hf, Bool.false_eq_true, if_false] at h
    obtain ⟨h1, h2, h3⟩ := hdig h
    exact ⟨line, [], (List.append_nil _).symm, h1, h2, h3, .inl rfl⟩
  | some i =>
    simp only [hf] at h
    obtain ⟨hbad, h⟩ := ite_cases_ne h nofun
    have hno : ∀ c : UInt8, (c == 10 || (!false && c == 13)) = true → c ∉ line.drop i := fun c hc hm =>
      hbad (List.any_eq_true.mpr ⟨c, hm, hc⟩)
    obtain ⟨h1, h2, h3⟩ := hdig h
    exact ⟨line.take i, line.drop i, (List.take_append_drop i line).symm, h1, h2, h3,
      .inr ⟨by rw [List.head?_drop]; exact findByte_get 59 line i hf, hno 10 rfl, hno 13 rfl⟩⟩

theorem chunkEofStep_body (cfg : Cfg) (hstrict : cfg.lax = false) {k : LoopK} (hk : KBody k) (n : Nat)
    {p : PState} {c rest : Bytes} {evs evs' : List Ev}
    (h : chunkEofStep cfg k p c evs = (.complete rest, evs')) : Reads .chunkEof n p.trailerLines c rest evs evs' := by
  unfold chunkEofStep at h
  simp only [hstrict, skipCR, sepLen, sepBytes, Bool.false_eq_true, if_false] at h
  rcases ite_cases h with ⟨hsep, h⟩ | ⟨_, h⟩
  · obtain ⟨d, tls, hb, hd, hf⟩ := hk _ _ _ _ _ h
    have hc : c = 13 :: 10 :: c.drop 2 := (List.take_append_drop 2 c).symm.trans (by rw [eq_of_beq hsep]; rfl)
    rw [hc]
    exact ⟨d, tls, .chunkEof n _ rest d tls (hb.reindex nofun), hd, hf⟩
  · rcases ite_cases h with ⟨_, h⟩ | ⟨_, h⟩ <;> cases h

theorem chunkStep_body (cfg : Cfg) (hstrict : cfg.lax = false) {k : LoopK} (hk : KBody k)
    {p : PState} {c rest : Bytes} {evs evs' : List Ev}
    (h : chunkStep cfg k p c evs = (.complete rest, evs')) : Reads .chunk p.chunkSize p.trailerLines c rest evs evs' := by
  unfold chunkStep at h
  simp only [] at h
  obtain ⟨hz, h⟩ := ite_cases_ne h nofun
  obtain ⟨d, tls, hb, hd, hf⟩ := chunkEofStep_body cfg hstrict hk 0 h
  have hlen : (c.take p.chunkSize).length = p.chunkSize := by
    have : p.chunkSize - c.length = 0 := by simpa using hz
    rw [List.length_take]
    omega
  refine ⟨c.take p.chunkSize ++ d, tls, ?_, ?_, hf⟩
  · have := Body.chunk p.chunkSize (c.take p.chunkSize) (c.drop p.chunkSize) rest d tls hlen hb
    rwa [List.take_append_drop] at this
  · rw [hd, dataOf_snoc_nodata _ .endChunk nofun, dataOf_app, dataOf_dataEv', List.append_assoc]

theorem trailersStep_body (cfg : Cfg) (hstrict : cfg.lax = false) {k : LoopK} (hk : KBody k) (n : Nat)
    {p : PState} (hp : p.cstate = .trailers) {c rest : Bytes} {evs evs' : List Ev}
    (h : trailersStep cfg k p c evs = (.complete rest, evs')) : Reads .trailers n p.trailerLines c rest evs evs' := by
  unfold trailersStep at h
  simp only [hstrict, findSep, sepLen, trailerLine, trailerRawLen, Bool.false_eq_true, if_false] at h
  cases hf : findCRLF c with
  | none => rw [hf] at h; rcases ite_cases h with ⟨_, h⟩ | ⟨_, h⟩ <;> cases h
  | some pos =>
    obtain ⟨line, r, rfl, hnone, hl, hr⟩ := findCRLF_split c pos hf
    simp only [hf, hl, hr] at h
    obtain ⟨_, h⟩ := ite_cases_ne h nofun
    obtain ⟨_, h⟩ := ite_cases_ne h nofun
    rcases ite_cases h with ⟨hempty, h⟩ | ⟨hne, h⟩
    · cases List.isEmpty_iff.mp hempty
      cases hph : parseHeaders false cfg.maxField (p.trailerLines ++ [[]]) with
      | error e => rw [hph] at h; cases h
      | ok hs =>
        rw [hph] at h
        cases h
        exact ⟨[], [], .trailersEnd n _, by rw [dataOf_snoc_nodata _ .eof nofun, List.append_nil], hs,
          by simpa using (parseHeaders_sound hph).1⟩
    · obtain ⟨d, tls, hb, hd, hs, hf⟩ := hk _ _ _ _ _ h
      simp only [hp] at hb
      exact ⟨d, line :: tls, .trailerLine n line r rest d tls (fun e => hne (by rw [e]; rfl)) hnone (hb.reindex nofun),
        hd, hs, by simpa using hf⟩

theorem sizeStep_body (cfg : Cfg) (hstrict : cfg.lax = false) {k : LoopK} (hk : KBody k) (n : Nat)
    {p : PState} {c rest : Bytes} {evs evs' : List Ev}
    (h : sizeStep cfg k p c evs = (.complete rest, evs')) : Reads .size n p.trailerLines c rest evs evs' := by
  unfold sizeStep at h
  simp only [hstrict, findSep, sepLen, Bool.false_eq_true, if_false] at h
  cases hf : findCRLF c with
  | none => rw [hf] at h; rcases ite_cases h with ⟨_, h⟩ | ⟨_, h⟩ <;> cases h
  | some pos =>
    obtain ⟨line, r, rfl, hnone, hl, hr⟩ := findCRLF_split c pos hf
    simp only [hf, hl, hr] at h
    obtain ⟨_, h⟩ := ite_cases_ne h nofun
    cases hsz : chunkSizeOf cfg line with
    | none => rw [hsz] at h; cases h
    | some size =>
      simp only [hsz] at h
      have hline : SizeLine line size := ⟨hnone, chunk_size_line_strict cfg hstrict _ _ hsz⟩
      rcases ite_cases h with ⟨hz, h⟩ | ⟨hz, h⟩
      · cases eq_of_beq hz
        obtain ⟨d, tls, hb, hd, hf⟩ := trailersStep_body cfg hstrict hk 0 rfl h
        exact ⟨d, tls, .sizeLast n line r rest d tls hline hb, hd, hf⟩
      · obtain ⟨d, tls, hb, hd, hf⟩ := chunkStep_body cfg hstrict hk h
        exact ⟨d, tls, .sizeChunk n line size r rest d tls hline (fun e => hz (by rw [e]; rfl)) hb,
          by rw [hd, dataOf_snoc_nodata _ .beginChunk nofun], hf⟩

theorem chunkedLoop_body (cfg : Cfg) (hstrict : cfg.lax = false) : ∀ f, KBody (chunkedLoop cfg f) := by
  intro f
  induction f with
  | zero => intro p c evs rest evs' h; cases h
  | succ n ih =>
    intro p c evs rest evs' h
    rw [chunkedLoop] at h
    obtain ⟨_, h⟩ := ite_cases_ne h nofun
    cases hcs : p.cstate with
    | size => rw [hcs] at h; exact sizeStep_body cfg hstrict ih _ h
    | chunk => rw [hcs] at h; exact chunkStep_body cfg hstrict ih h
    | chunkEof => rw [hcs] at h; exact chunkEofStep_body cfg hstrict ih _ h
    | trailers => rw [hcs] at h; exact trailersStep_body cfg hstrict ih _ hcs h

/-- **An accepted chunked body is a strict reading.** The strict (server-side) body parser at any
point of a chunked body with nothing buffered: if one `feed_data` call completes the body, the
bytes consumed are a strict RFC 9112 chunked-body remainder (`Body`), the bytes handed back are
exactly what follows it, the data delivered is exactly the concatenation of the chunk data, and
the trailer lines (those already collected and those of this remainder) are strict field lines. -/
theorem chunked_body_is_strict (cfg : Cfg) (hstrict : cfg.lax = false) (p : PState) (inp rest : Bytes) (E : List Ev)
    (ht : p.type = .chunked) (htl : p.tail = [])
    (h : payloadFeed cfg p inp = (.complete rest, E)) :
    ∃ d tls hs, Body p.cstate p.chunkSize inp rest d tls ∧ dataOf E = d ∧
      FieldsOf (p.trailerLines ++ tls ++ [[]]) hs := by
  rw [payloadFeed_chunked cfg p _ ht] at h
  obtain ⟨_, h⟩ := ite_cases_ne h nofun
  rw [htl] at h
  obtain ⟨d, tls, hb, hd, hs, hf⟩ := chunkedLoop_body cfg hstrict _ _ _ _ _ _ h
  exact ⟨d, tls, hs, hb, hd, hf⟩

/-- Non-vacuity: the strict parser completes `3;x=y CRLF abc CRLF 0 CRLF T: v CRLF CRLF` + `GET`
from the start of a chunked body (so the theorem speaks about a real completion). -/
example : (match (payloadFeed {} { type := .chunked, maxTrailers := 8 }
    [51, 59, 120, 61, 121, 13, 10, 97, 98, 99, 13, 10, 48, 13, 10, 84, 58, 32, 118, 13, 10, 13, 10, 71, 69, 84]).1 with
    | .complete rest => rest == [71, 69, 84]
    | _ => false) = true ∧ ({} : Cfg).lax = false := by
  decide +kernel
end Aio.Http
