import AioProps.C08Step
/-! C08: end-of-stream is reported only after all data, and `readchunk` reports a chunk end only on a
boundary the sender recorded (coroutine-level lemmas). -/
namespace Aio.C08
open Aio

theorem readNowait_nonempty {s : S} (hi : Inv s) (hb : s.bufs ≠ []) (n : Option Nat) (hn : n ≠ some 0) :
    (readNowait s n).2 ≠ [] := by
  obtain ⟨hr, -, hnone, hk⟩ := readNowait_reach hi n
  intro hd
  -- nothing returned: the buffer ran out, so nothing was buffered
  have hb' : (readNowait s n).1.bufs = [] := by
    cases n with
    | none => exact hnone rfl
    | some k =>
      refine (hk k rfl).2.resolve_left fun h => hn ?_
      rw [← h, hd]; rfl
  have := (reach_taken hi hr).2
  rw [hd, rest_nil hb'] at this
  exact rest_ne_nil hi hb this

theorem readNowait_empty {s : S} (hb : s.bufs = []) (n : Option Nat) : readNowait s n = (s, []) := by
  cases n with
  | none => simp [readNowait, hb, drainN]
  | some k => simp [readNowait, hb, takeN]

theorem park_out {s : S} {p : Pend} {o : Out} (h : (park s p).2 = o) : o = .blocked ∨ o = .err .runtime := by
  subst h
  unfold park raise
  split
  · exact .inr rfl
  · split
    · exact .inr rfl
    · exact .inl rfl

theorem readNowait_eof {s : S} (hi : Inv s) (hc : ¬ (s.bufs.isEmpty && !s.eof) = true) (n : Option Nat)
    (hn : n ≠ some 0) (h : (readNowait s n).2 = []) :
    (readNowait s n).1.eof = true ∧ (readNowait s n).1.bufs = [] := by
  by_cases hb : s.bufs = []
  · rw [readNowait_empty hb]
    exact ⟨by simpa [hb] using hc, hb⟩
  · exact absurd h (readNowait_nonempty hi hb n hn)

/-- `read(n)`, n > 0, returns `b""` only when `feed_eof` was called and the buffer is empty -/
theorem contRead_eof {s : S} (hi : Inv s) (n : Nat) (hn : 0 < n) (it : Bool)
    (h : (contRead s n it).2 = .data []) : (contRead s n it).1.eof = true ∧ (contRead s n it).1.bufs = [] := by
  unfold contRead at h ⊢
  by_cases hc : (s.bufs.isEmpty && !s.eof) = true
  · rw [if_pos hc] at h
    nomatch park_out h
  · rw [if_neg hc] at h ⊢
    exact readNowait_eof hi hc (some n) (fun h => by cases h; cases hn) (Out.data.inj h)

/-- `readany()` returns `b""` only when `feed_eof` was called and the buffer is empty -/
theorem contReadAny_eof {s : S} (hi : Inv s) (it : Bool)
    (h : (contReadAny s it).2 = .data []) : (contReadAny s it).1.eof = true ∧ (contReadAny s it).1.bufs = [] := by
  unfold contReadAny at h ⊢
  by_cases hc : (s.bufs.isEmpty && !s.eof) = true
  · rw [if_pos hc] at h
    nomatch park_out h
  · rw [if_neg hc] at h ⊢
    exact readNowait_eof hi hc none nofun (Out.data.inj h)

/-- `read(-1)` returns only when `feed_eof` was called and the buffer is empty: it returns
everything up to end-of-stream -/
theorem contReadAll_eof (fuel : Nat) {s : S} (acc : Bytes) (it : Bool) (x : Bytes) (hi : Inv s)
    (h : (contReadAll fuel s acc it).2 = .data x) :
    (contReadAll fuel s acc it).1.eof = true ∧ (contReadAll fuel s acc it).1.bufs = [] := by
  induction fuel generalizing s acc with
  | zero => cases h
  | succ fuel ih =>
    simp only [contReadAll] at h ⊢
    by_cases hc : (s.bufs.isEmpty && !s.eof) = true
    · rw [if_pos hc] at h
      nomatch park_out h
    rw [if_neg hc] at h ⊢
    by_cases hd : (readNowait s none).2.isEmpty = true
    · rw [if_pos hd]
      exact readNowait_eof hi hc none nofun (List.isEmpty_iff.mp hd)
    rw [if_neg hd] at h ⊢
    split at h
    · cases h
    · exact ih _ (reach_inv hi (readNowait_reach hi none).1) h

theorem chunkTail_out {s : S} (hi : Inv s) (it : Bool) {d : Bytes} {b : Bool} (h : (chunkTail s it).2 = .chunk d b) :
    b = false ∧ (d = [] → (chunkTail s it).1.eof = true ∧ (chunkTail s it).1.bufs = []) := by
  unfold chunkTail at h ⊢
  by_cases hb : (!s.bufs.isEmpty) = true
  · rw [if_pos hb] at h
    have hne : s.bufs ≠ [] := by intro h; simp [h] at hb
    obtain ⟨rfl, rfl⟩ := Out.chunk.inj h
    exact ⟨rfl, fun h0 => absurd h0 ((rnc_spec hi hne none).2.2.2.1 nofun)⟩
  rw [if_neg hb] at h ⊢
  by_cases he : s.eof = true
  · rw [if_pos he] at h ⊢
    obtain ⟨rfl, rfl⟩ := Out.chunk.inj h
    exact ⟨rfl, fun _ => ⟨he, by simpa using hb⟩⟩
  · rw [if_neg he] at h
    nomatch park_out h

/-- `readchunk()` answers `end_of_http_chunk = True` only with the cursor on a sender boundary, and
`(b"", False)` only when `feed_eof` was called and the buffer is empty -/
theorem contReadChunk_out {s : S} (hi : Inv s) (it : Bool) {d : Bytes} {b : Bool}
    (h : (contReadChunk s it).2 = .chunk d b) :
    (b = true → (contReadChunk s it).1.cursor ∈ s.bounds) ∧
    (d = [] → b = false → (contReadChunk s it).1.eof = true ∧ (contReadChunk s it).1.bufs = []) := by
  cases hexc : s.exc with
  | some e => unfold contReadChunk at h; rw [hexc] at h; cases h
  | none =>
    rw [contReadChunk_eq hexc] at h ⊢
    obtain ⟨_, hr, -, -, hsome⟩ := splitLoop_reach hi
    split at h
    · rename_i o ho
      cases (hsome o ho).1.symm.trans h
      exact ⟨fun _ => (hsome o ho).2, fun _ hb => nomatch hb⟩
    · obtain ⟨rfl, h0⟩ := chunkTail_out (reach_inv hi hr) it h
      exact ⟨nofun, fun hd _ => h0 hd⟩

end Aio.C08
