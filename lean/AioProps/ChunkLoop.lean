import AioProps.C03Main
/-!
# The chunked body loop, one turn at a time

`chunkedLoop` is written in continuation-passing style: each branch of the state machine
(`sizeStep`, `chunkStep`, `chunkEofStep`, `trailersStep`) either returns or calls "the rest of the
loop".  Here a branch is described by what it *decides* — `Turn`: return this result with these new
events, or go round again with this state and this rest of the buffer — independently of the
continuation and of the events so far (`chunkedLoop_succ`).  Every law of the loop is then an
induction on the fuel that uses first-order facts about `turn`: `TurnOK` (what a turn returns, saves
and consumes; `turn_ok`, and `chunkedLoop_ok` for a whole run) and `TurnCut` (how the turn on `a`
compares with the turn on `a ++ b`; `turn_cut`).
-/
namespace Aio.Http
open Aio

/-- what one iteration of the `while chunk:` loop decides -/
inductive Turn where
  | ret (r : PRes) (new : List Ev)
  | next (p : PState) (rest : Bytes) (new : List Ev)

namespace Turn

def new : Turn → List Ev
  | ret _ new => new
  | next _ _ new => new

def run (k : LoopK) (evs : List Ev) : Turn → PRes × List Ev
  | ret r new => (r, evs ++ new)
  | next p c new => k p c (evs ++ new)

def emit (e : List Ev) : Turn → Turn
  | ret r new => ret r (e ++ new)
  | next p c new => next p c (e ++ new)

theorem emit_nil (t : Turn) : t.emit [] = t := by cases t <;> rfl

theorem run_emit (k : LoopK) (evs e : List Ev) (t : Turn) : (t.emit e).run k evs = t.run k (evs ++ e) := by
  cases t <;> simp only [emit, run, List.append_assoc]

end Turn

def eofTurn (cfg : Cfg) (p : PState) (chunk : Bytes) : Turn :=
  let c := skipCR cfg.lax chunk
  if c.take (sepLen cfg.lax) == sepBytes cfg.lax then .next { p with cstate := .size } (c.drop (sepLen cfg.lax)) []
  else if c.length ≥ sepLen cfg.lax || c != (sepBytes cfg.lax).take c.length then .ret (.err .transferEncoding true) []
  else .ret (.needs { p with tail := chunk }) []

def chunkTurn (cfg : Cfg) (p : PState) (chunk : Bytes) : Turn :=
  let p' := { p with chunkSize := p.chunkSize - chunk.length }
  if p'.chunkSize != 0 then .ret (.needs p') (dataEv (chunk.take p.chunkSize))
  else (eofTurn cfg { p' with cstate := .chunkEof } (chunk.drop p.chunkSize)).emit
    (dataEv (chunk.take p.chunkSize) ++ [.endChunk])

def trailersTurn (cfg : Cfg) (p : PState) (chunk : Bytes) : Turn :=
  match findSep cfg.lax chunk with
  | none =>
    if chunk.any (· == 10) then .ret (.err .transferEncoding true) []
    else .ret (.needs { p with tail := chunk }) []
  | some pos =>
    let raw := chunk.take pos
    let tl := p.trailerLines ++ [trailerLine cfg.lax raw]
    if trailerRawLen cfg.lax raw > cfg.maxField then .ret (.err .lineTooLong false) [] else
    if tl.length > p.maxTrailers then .ret (.err .badHttpMessage false) [] else
    if (trailerLine cfg.lax raw).isEmpty then
      match parseHeaders cfg.lax cfg.maxField tl with
      | .error e => .ret (.err e (e == .invalidHeader || e == .transferEncoding)) []
      | .ok _ => .ret (.complete (chunk.drop (pos + sepLen cfg.lax))) [.eof]
    else .next { p with trailerLines := tl } (chunk.drop (pos + sepLen cfg.lax)) []

def sizeTurn (cfg : Cfg) (p : PState) (chunk : Bytes) : Turn :=
  match findSep cfg.lax chunk with
  | some pos =>
    if pos > cfg.maxLine then .ret (.err .lineTooLong false) [] else
    match chunkSizeOf cfg (chunk.take pos) with
    | none => .ret (.err .transferEncoding true) []
    | some size =>
      if size == 0 then trailersTurn cfg { p with cstate := .trailers } (chunk.drop (pos + sepLen cfg.lax))
      else (chunkTurn cfg { p with cstate := .chunk, chunkSize := size } (chunk.drop (pos + sepLen cfg.lax))).emit
        [.beginChunk]
  | none =>
    if chunk.any (· == 10) then .ret (.err .transferEncoding true) []
    else .ret (.needs { p with tail := chunk }) []

def turn (cfg : Cfg) (p : PState) (chunk : Bytes) : Turn :=
  match p.cstate with
  | .size => sizeTurn cfg p chunk
  | .chunk => chunkTurn cfg p chunk
  | .chunkEof => eofTurn cfg p chunk
  | .trailers => trailersTurn cfg p chunk

theorem chunkEofStep_eq (cfg : Cfg) (k : LoopK) (p : PState) (c : Bytes) (evs : List Ev) :
    chunkEofStep cfg k p c evs = (eofTurn cfg p c).run k evs := by
  -- `run` is pushed into the branches before it is unfolded: unfolded first it is a `match` on an `if`
  simp only [chunkEofStep, eofTurn, apply_ite (Turn.run k evs)]
  simp only [Turn.run, List.append_nil]

theorem chunkStep_eq (cfg : Cfg) (k : LoopK) (p : PState) (c : Bytes) (evs : List Ev) :
    chunkStep cfg k p c evs = (chunkTurn cfg p c).run k evs := by
  simp only [chunkStep, chunkTurn, apply_ite (Turn.run k evs), chunkEofStep_eq, Turn.run_emit]
  simp only [Turn.run, List.append_assoc]

theorem trailersStep_eq (cfg : Cfg) (k : LoopK) (p : PState) (c : Bytes) (evs : List Ev) :
    trailersStep cfg k p c evs = (trailersTurn cfg p c).run k evs := by
  unfold trailersStep trailersTurn
  cases findSep cfg.lax c with
  | none =>
    simp only [apply_ite (Turn.run k evs)]
    simp only [Turn.run, List.append_nil]
  | some pos =>
    simp only [apply_ite (Turn.run k evs)]
    cases parseHeaders cfg.lax cfg.maxField (p.trailerLines ++ [trailerLine cfg.lax (c.take pos)]) <;>
      simp only [Turn.run, List.append_nil]

theorem sizeStep_eq (cfg : Cfg) (k : LoopK) (p : PState) (c : Bytes) (evs : List Ev) :
    sizeStep cfg k p c evs = (sizeTurn cfg p c).run k evs := by
  unfold sizeStep sizeTurn
  cases findSep cfg.lax c with
  | none =>
    simp only [apply_ite (Turn.run k evs)]
    simp only [Turn.run, List.append_nil]
  | some pos =>
    simp only [apply_ite (Turn.run k evs)]
    cases chunkSizeOf cfg (c.take pos) with
    | none => simp only [Turn.run, List.append_nil]
    | some size =>
      simp only [apply_ite (Turn.run k evs), trailersStep_eq, chunkStep_eq, Turn.run_emit]
      simp only [Turn.run, List.append_nil]

theorem chunkedLoop_succ (cfg : Cfg) (f : Nat) (p : PState) (c : Bytes) (evs : List Ev) (hc : c ≠ []) :
    chunkedLoop cfg (f + 1) p c evs = (turn cfg p c).run (chunkedLoop cfg f) evs := by
  have : c.isEmpty = false := by cases c <;> simp_all
  rw [chunkedLoop, this, turn]
  cases p.cstate
  · exact sizeStep_eq ..
  · exact chunkStep_eq ..
  · exact chunkEofStep_eq ..
  · exact trailersStep_eq ..

theorem chunkedLoop_size (cfg : Cfg) (f : Nat) (p : PState) (c : Bytes) (evs : List Ev) (hc : c ≠ [])
    (hs : p.cstate = .size) : chunkedLoop cfg (f + 1) p c evs = sizeStep cfg (chunkedLoop cfg f) p c evs := by
  rw [chunkedLoop_succ cfg f p c evs hc, sizeStep_eq, turn, hs]

def Ev.isMsg : Ev → Bool
  | .msg _ _ => true
  | _ => false

def NoMsg (l : List Ev) : Prop := ∀ e ∈ l, e.isMsg = false

theorem noMsg_append {a b : List Ev} (ha : NoMsg a) (hb : NoMsg b) : NoMsg (a ++ b) :=
  fun e he => (List.mem_append.mp he).elim (ha e) (hb e)

theorem noMsg_nil : NoMsg [] := fun _ he => nomatch he

theorem noMsg_single {e : Ev} (h : e.isMsg = false) : NoMsg [e] :=
  fun x hx => by cases List.mem_singleton.mp hx; exact h

theorem dataEv_no_msg (bs : Bytes) : NoMsg (dataEv bs) := by
  unfold dataEv; split
  · exact noMsg_nil
  · exact noMsg_single rfl

/-- `rest` is what follows one of the line feeds of `c` -/
def SuffPos (c rest : Bytes) : Prop := ∃ k, 0 < k ∧ k ≤ c.length ∧ rest = c.drop k ∧ c[k - 1]? = some 10

theorem suffPos_drop (c rest : Bytes) (j : Nat) (h : SuffPos (c.drop j) rest) : SuffPos c rest := by
  obtain ⟨k, hk0, hkl, hr, hg⟩ := h
  refine ⟨j + k, by omega, ?_, ?_, ?_⟩
  · simp at hkl; omega
  · rw [hr, List.drop_drop]
  · rw [List.getElem?_drop] at hg
    have : j + k - 1 = j + (k - 1) := by omega
    rw [this]; exact hg

/-- first-order facts about the turn `t` taken in state `p` on the buffer `c` (`noMsg` is for `payloadFeed_no_msg`,
`eof` for `payloadFeed_complete_eof`; of the saved tail, "no line feed" for `payloadLaws_all`, the length for C10Tail) -/
structure TurnOK (p : PState) (c : Bytes) (t : Turn) : Prop where
  noMsg : NoMsg t.new
  next : ∀ {p' c' new}, t = .next p' c' new →
    p'.tail = p.tail ∧ p'.type = p.type ∧ ∃ j, 0 < j ∧ j ≤ c.length ∧ c' = c.drop j
  complete : ∀ {rest new}, t = .ret (.complete rest) new → SuffPos c rest ∧ Ev.eof ∈ new
  needs : ∀ {p' new}, t = .ret (.needs p') new → p'.type = p.type ∧
    (p'.tail = p.tail ∨ (p'.cstate ≠ .chunk ∧ (10 : UInt8) ∉ p'.tail ∧ p'.tail.length ≤ c.length))

namespace TurnOK

/-- for a branch that, `j` bytes on and having emitted `e`, falls through to the branch that takes `t` -/
theorem lift {p q : PState} {c : Bytes} {t : Turn} {j : Nat} {e : List Ev} (h : TurnOK q (c.drop j) t)
    (ht : q.tail = p.tail) (hty : q.type = p.type) (he : NoMsg e) : TurnOK p c (t.emit e) := by
  have hlen : (c.drop j).length ≤ c.length := by rw [List.length_drop]; omega
  cases t with
  | ret r new0 =>
    refine ⟨noMsg_append he h.noMsg, nofun, fun h' => ?_, fun h' => ?_⟩
    · cases h'
      obtain ⟨h1, h2⟩ := h.complete rfl
      exact ⟨suffPos_drop c _ j h1, List.mem_append_right _ h2⟩
    · cases h'
      obtain ⟨h1, h2⟩ := h.needs rfl
      refine ⟨h1.trans hty, h2.imp (·.trans ht) fun ⟨a, b, c'⟩ => ⟨a, b, by omega⟩⟩
  | next p' c' new0 =>
    refine ⟨noMsg_append he h.noMsg, fun h' => ?_, nofun, nofun⟩
    cases h'
    obtain ⟨h1, h2, i, hi, hil, rfl⟩ := h.next rfl
    rw [List.length_drop] at hil
    exact ⟨h1.trans ht, h2.trans hty, j + i, by omega, by omega, by rw [List.drop_drop]⟩

theorem saved {p : PState} {c : Bytes} (hs : p.cstate ≠ .chunk) (hc : (10 : UInt8) ∉ c) :
    TurnOK p c (.ret (.needs { p with tail := c }) []) :=
  ⟨noMsg_nil, nofun, nofun, fun h => by cases h; exact ⟨rfl, .inr ⟨hs, hc, Nat.le_refl _⟩⟩⟩

theorem err {p : PState} {c : Bytes} {e : Err} {b : Bool} : TurnOK p c (.ret (.err e b) []) :=
  ⟨noMsg_nil, nofun, nofun, nofun⟩

end TurnOK

theorem sepBytes_length (lax : Bool) : (sepBytes lax).length = sepLen lax := by cases lax <;> rfl

theorem skipCR_cases (lax : Bool) (c : Bytes) : skipCR lax c = c ∨ c = 13 :: skipCR lax c := by
  cases lax
  · exact .inl rfl
  · show (match c with | 13 :: t => t | c => c) = c ∨ c = 13 :: (match c with | 13 :: t => t | c => c)
    split
    · exact .inr rfl
    · exact .inl rfl

theorem skipCR_eq_drop (lax : Bool) (c : Bytes) : ∃ j, skipCR lax c = c.drop j :=
  (skipCR_cases lax c).elim (fun h => ⟨0, h⟩) fun h => ⟨1, (congrArg (List.drop 1) h).symm⟩

theorem skipCR_append (lax : Bool) (a b : Bytes) (ha : a ≠ []) : skipCR lax (a ++ b) = skipCR lax a ++ b := by
  cases lax
  · rfl
  · cases a with
    | nil => exact absurd rfl ha
    | cons x t =>
      show (match x :: (t ++ b) with | 13 :: t => t | c => c) = (match x :: t with | 13 :: t => t | c => c) ++ b
      split <;> split <;> simp_all

theorem sep_prefix_no_lf (lax : Bool) (c : Bytes) (hlen : (skipCR lax c).length < sepLen lax)
    (hpre : skipCR lax c = (sepBytes lax).take (skipCR lax c).length) : (10 : UInt8) ∉ c := by
  have hs : (10 : UInt8) ∉ skipCR lax c := by
    rw [hpre]
    generalize (skipCR lax c).length = k at hlen
    cases lax
    · match k, hlen with
      | 0, _ => exact List.not_mem_nil
      | 1, _ => simp [sepBytes]
    · match k, hlen with
      | 0, _ => exact List.not_mem_nil
  rcases skipCR_cases lax c with h | h
  · rwa [h] at hs
  · rw [h]
    exact fun hm => (List.mem_cons.mp hm).elim (by simp) hs

theorem le_of_take_beq (x s : Bytes) (n : Nat) (h : (x.take n == s) = true) (hs : s.length = n) : n ≤ x.length := by
  have h1 : x.take n = s := by simpa using h
  have : (x.take n).length = n := by rw [h1, hs]
  rw [List.length_take] at this
  omega

theorem not_mem_of_any_false (c : Bytes) (h : ¬ (c.any (· == 10)) = true) : (10 : UInt8) ∉ c := by
  intro hm
  apply h
  simp only [List.any_eq_true]
  exact ⟨10, hm, by simp⟩

theorem eofTurn_ok (cfg : Cfg) {p : PState} {c : Bytes} (hs : p.cstate ≠ .chunk) : TurnOK p c (eofTurn cfg p c) := by
  fun_cases eofTurn cfg p c
  case case1 c' hsep =>
    obtain ⟨j, hj : c' = c.drop j⟩ := skipCR_eq_drop cfg.lax c
    have hn := le_of_take_beq _ _ _ hsep (sepBytes_length cfg.lax)
    have := sepLen_pos cfg.lax
    rw [hj, List.length_drop] at hn
    refine ⟨noMsg_nil, fun h => ?_, nofun, nofun⟩
    cases h
    exact ⟨rfl, rfl, j + sepLen cfg.lax, by omega, by omega, by rw [hj, List.drop_drop]⟩
  case case2 => exact .err
  case case3 c' _ hn =>
    simp only [Bool.or_eq_true, decide_eq_true_eq, not_or, Nat.not_le, bne_iff_ne, ne_eq, Decidable.not_not] at hn
    exact .saved hs (sep_prefix_no_lf cfg.lax c hn.1 hn.2)

theorem chunkTurn_ok (cfg : Cfg) {p : PState} {c : Bytes} : TurnOK p c (chunkTurn cfg p c) := by
  fun_cases chunkTurn cfg p c
  · exact ⟨dataEv_no_msg _, nofun, nofun, fun h => by cases h; exact ⟨rfl, .inl rfl⟩⟩
  · exact .lift (eofTurn_ok cfg nofun) rfl rfl (noMsg_append (dataEv_no_msg _) (noMsg_single rfl))

theorem trailersTurn_ok (cfg : Cfg) {p : PState} {c : Bytes} (hs : p.cstate ≠ .chunk) :
    TurnOK p c (trailersTurn cfg p c) := by
  fun_cases trailersTurn cfg p c
  case case1 | case3 | case4 | case5 => exact .err
  case case2 _ hn => exact .saved hs (not_mem_of_any_false c hn)
  case case6 pos hf _ _ _ _ _ _ _ =>
    have := sepLen_pos cfg.lax
    refine ⟨noMsg_single rfl, nofun, fun h => ?_, nofun⟩
    cases h
    exact ⟨⟨pos + sepLen cfg.lax, by omega, findSep_bound cfg.lax c pos hf, rfl, findSep_get cfg.lax c pos hf⟩,
      List.mem_singleton.2 rfl⟩
  case case7 pos hf _ _ _ _ _ =>
    have := sepLen_pos cfg.lax
    refine ⟨noMsg_nil, fun h => ?_, nofun, nofun⟩
    cases h
    exact ⟨rfl, rfl, _, by omega, findSep_bound cfg.lax c pos hf, rfl⟩

theorem sizeTurn_ok (cfg : Cfg) {p : PState} {c : Bytes} (hs : p.cstate ≠ .chunk) : TurnOK p c (sizeTurn cfg p c) := by
  fun_cases sizeTurn cfg p c
  case case1 | case2 | case5 => exact .err
  case case3 =>
    rw [← Turn.emit_nil (trailersTurn ..)]
    exact .lift (trailersTurn_ok cfg nofun) rfl rfl noMsg_nil
  case case4 => exact .lift (chunkTurn_ok cfg) rfl rfl (noMsg_single rfl)
  case case6 _ hn => exact .saved hs (not_mem_of_any_false c hn)

theorem turn_ok (cfg : Cfg) (p : PState) (c : Bytes) : TurnOK p c (turn cfg p c) := by
  fun_cases turn cfg p c
  case case1 h => exact sizeTurn_ok cfg (by rw [h]; nofun)
  case case2 => exact chunkTurn_ok cfg
  case case3 h => exact eofTurn_ok cfg (by rw [h]; nofun)
  case case4 h => exact trailersTurn_ok cfg (by rw [h]; nofun)

/-- `k` only appends to the events it is given -/
def ThreadsAcc (k : LoopK) : Prop := ∀ p c evs, k p c evs = ((k p c []).1, evs ++ (k p c []).2)

theorem chunkedLoop_nil (cfg : Cfg) (f : Nat) (p : PState) (evs : List Ev) :
    chunkedLoop cfg (f + 1) p [] evs = (.needs p, evs) := by
  rw [chunkedLoop]; rfl

/-- A run of the loop is itself a turn that returns; the second disjunct is the fuel running out, which
`c.length < f` excludes. -/
theorem chunkedLoop_ok (cfg : Cfg) : ∀ (f : Nat) (p : PState) (c : Bytes),
    ∃ r new, (∀ evs, chunkedLoop cfg f p c evs = (r, evs ++ new)) ∧
      (TurnOK p c (.ret r new) ∨ (f ≤ c.length ∧ ∃ p', r = .needs p')) := by
  intro f
  induction f with
  | zero =>
    exact fun p c => ⟨_, [], fun evs => by rw [chunkedLoop, List.append_nil], .inr ⟨Nat.zero_le _, _, rfl⟩⟩
  | succ n ih =>
    intro p c
    by_cases hc : c = []
    · subst hc
      exact ⟨.needs p, [], fun evs => by rw [chunkedLoop_nil, List.append_nil],
        .inl ⟨noMsg_nil, nofun, nofun, fun h => by cases h; exact ⟨rfl, .inl rfl⟩⟩⟩
    · have hok := turn_ok cfg p c
      cases ht : turn cfg p c with
      | ret r new =>
        exact ⟨r, new, fun evs => by rw [chunkedLoop_succ cfg n p c evs hc, ht]; rfl, .inl (ht ▸ hok)⟩
      | next p' c' new =>
        rw [ht] at hok
        obtain ⟨h1, h2, j, hj, hjl, rfl⟩ := hok.next rfl
        obtain ⟨r, new2, hrun, hr⟩ := ih p' (c.drop j)
        refine ⟨r, new ++ new2, fun evs => ?_, hr.imp (·.lift h1 h2 hok.noMsg) ?_⟩
        · rw [chunkedLoop_succ cfg n p c evs hc, ht, Turn.run, hrun, List.append_assoc]
        · rw [List.length_drop]
          exact fun ⟨hf, hn⟩ => ⟨by omega, hn⟩

theorem chunkedLoop_acc (cfg : Cfg) : ∀ f, ThreadsAcc (chunkedLoop cfg f) := fun f p c evs => by
  obtain ⟨r, new, h, _⟩ := chunkedLoop_ok cfg f p c
  rw [h evs, h []]
  rfl

theorem chunkedLoop_fuel (cfg : Cfg) : ∀ (f1 f2 : Nat) (p : PState) (c : Bytes) (evs : List Ev),
    c.length < f1 → c.length < f2 → chunkedLoop cfg f1 p c evs = chunkedLoop cfg f2 p c evs := by
  intro f1
  induction f1 with
  | zero => intro f2 p c evs h; omega
  | succ n ih =>
    intro f2 p c evs h1 h2
    cases f2 with
    | zero => omega
    | succ m =>
      by_cases hc : c = []
      · subst hc; rw [chunkedLoop_nil, chunkedLoop_nil]
      · rw [chunkedLoop_succ cfg n p c evs hc, chunkedLoop_succ cfg m p c evs hc]
        cases ht : turn cfg p c with
        | ret r new => rfl
        | next p' c' new =>
          obtain ⟨_, _, j, hj, hjl, rfl⟩ := (turn_ok cfg p c).next ht
          exact ih m _ _ _ (by rw [List.length_drop]; omega) (by rw [List.length_drop]; omega)

theorem chunkedLoop_needs (cfg : Cfg) {f : Nat} {p p' : PState} {c : Bytes} {evs evs' : List Ev} (hc : c.length < f)
    (ht : p.tail = []) (h : chunkedLoop cfg f p c evs = (.needs p', evs')) :
    p'.type = p.type ∧ (10 : UInt8) ∉ p'.tail ∧ p'.tail.length ≤ c.length ∧ (p'.cstate = .chunk → p'.tail = []) := by
  obtain ⟨r, new, hrun, hok | ⟨hf, _⟩⟩ := chunkedLoop_ok cfg f p c
  · rw [hrun] at h
    cases h
    obtain ⟨hty, h | ⟨h1, h2, h3⟩⟩ := hok.needs rfl
    · rw [ht] at h
      rw [h]
      exact ⟨hty, List.not_mem_nil, Nat.zero_le _, fun _ => rfl⟩
    · exact ⟨hty, h2, h3, fun hcs => absurd hcs h1⟩
  · omega

theorem chunkedLoop_pos (cfg : Cfg) {f : Nat} {p : PState} {c rest : Bytes} {evs evs' : List Ev}
    (h : chunkedLoop cfg f p c evs = (.complete rest, evs')) : SuffPos c rest ∧ Ev.eof ∈ evs' := by
  obtain ⟨r, new, hrun, hok | ⟨_, _, hn⟩⟩ := chunkedLoop_ok cfg f p c
  · rw [hrun] at h
    cases h
    exact (hok.complete rfl).imp_right (List.mem_append_right _)
  · rw [hrun, hn] at h
    cases h

theorem chunkedLoop_no_msg (cfg : Cfg) {f : Nat} (p : PState) {c : Bytes} {evs : List Ev} (hc : c.length < f)
    (h : NoMsg evs) : NoMsg (chunkedLoop cfg f p c evs).2 := by
  obtain ⟨r, new, hrun, hok | ⟨hf, _⟩⟩ := chunkedLoop_ok cfg f p c
  · rw [hrun]
    exact noMsg_append h hok.noMsg
  · omega

/-- results that agree on everything observable: same outcome, same events up to the way body
bytes are grouped into `data` events -/
def PRel (x y : PRes × List Ev) : Prop := x.1 = y.1 ∧ proj x.2 = proj y.2

namespace Turn

def sim : Turn → Turn → Prop
  | ret r new, ret r' new' => r = r' ∧ proj new = proj new'
  | next p c new, next p' c' new' => p = p' ∧ c = c' ∧ proj new = proj new'
  | _, _ => False

theorem sim_refl (t : Turn) : t.sim t := by
  cases t <;> simp [sim]

theorem emit_emit (t : Turn) (e e' : List Ev) : (t.emit e).emit e' = t.emit (e' ++ e) := by
  cases t <;> simp only [emit, List.append_assoc]

theorem sim.emit {t t' : Turn} (h : t.sim t') {e e' : List Ev} (he : proj e = proj e') : (t.emit e).sim (t'.emit e') := by
  cases t <;> cases t' <;> simp only [sim, Turn.emit, proj_append, he] at h ⊢
  · exact ⟨h.1, by rw [h.2]⟩
  · exact ⟨h.1, h.2.1, by rw [h.2.2]⟩

theorem sim.prel {t t' : Turn} (h : t.sim t') {k : LoopK} (hk : ThreadsAcc k) (evs : List Ev) :
    PRel (t.run k evs) (t'.run k evs) := by
  cases t <;> cases t' <;> simp only [sim] at h
  · exact ⟨h.1, by simp only [run, proj_append, h.2]⟩
  · obtain ⟨rfl, rfl, hp⟩ := h
    simp only [run]
    rw [hk _ _ (evs ++ _), hk _ _ (evs ++ _)]
    exact ⟨rfl, by simp only [proj_append, hp]⟩

end Turn

theorem pstate_tail_eta (p : PState) (h : p.tail = []) : { p with tail := [] } = p := by
  cases p; simp_all

/-- `tb` is the turn on `a ++ b` where `t` is the turn on `a`, in state `p`: going round again and
completing are unaffected by `b`; and from a state saved by `t` (nothing was buffered before) the
next call, given `b`, takes the turn `tb`, up to grouping -/
structure TurnCut (cfg : Cfg) (p : PState) (b : Bytes) (t tb : Turn) : Prop where
  next : ∀ {p' c' new}, t = .next p' c' new → tb = .next p' (c' ++ b) new
  complete : ∀ {rest new}, t = .ret (.complete rest) new → tb = .ret (.complete (rest ++ b)) new
  needs : p.tail = [] → ∀ p' new, t = .ret (.needs p') new →
    tb.sim ((turn cfg { p' with tail := [] } (p'.tail ++ b)).emit new)

namespace TurnCut
variable {cfg : Cfg} {p q : PState} {a b : Bytes} {t tb : Turn}

theorem of_tail_eq (h : TurnCut cfg q b t tb) (hq : q.tail = p.tail) : TurnCut cfg p b t tb :=
  ⟨h.next, h.complete, fun ht => h.needs (hq.trans ht)⟩

theorem emit (h : TurnCut cfg q b t tb) (hq : q.tail = p.tail) (e : List Ev) :
    TurnCut cfg p b (t.emit e) (tb.emit e) := by
  cases t with
  | ret r new =>
    refine ⟨nofun, fun h' => by cases h'; rw [h.complete rfl]; rfl, fun ht p' new' h' => ?_⟩
    cases h'
    rw [← Turn.emit_emit]
    exact (h.needs (hq.trans ht) _ _ rfl).emit rfl
  | next p c new => exact ⟨fun h' => by cases h'; rw [h.next rfl]; rfl, nofun, nofun⟩

theorem err {e : Err} {r : Bool} {new : List Ev} : TurnCut cfg p b (.ret (.err e r) new) tb :=
  ⟨nofun, nofun, nofun⟩

theorem ite {c : Prop} [Decidable c] {t' tb' : Turn} (h1 : c → TurnCut cfg p b t tb) (h2 : ¬c → TurnCut cfg p b t' tb') :
    TurnCut cfg p b (if c then t else t') (if c then tb else tb') := by
  by_cases h : c
  · rw [if_pos h, if_pos h]; exact h1 h
  · rw [if_neg h, if_neg h]; exact h2 h

theorem saved (h : turn cfg p (a ++ b) = tb) : TurnCut cfg p b (.ret (.needs { p with tail := a }) []) tb := by
  refine ⟨nofun, nofun, fun ht _ _ h' => ?_⟩
  cases h'
  rw [Turn.emit_nil, ← h]
  have : ({ ({ p with tail := a } : PState) with tail := [] } : PState) = p := pstate_tail_eta p ht
  rw [this]
  exact Turn.sim_refl _

end TurnCut

theorem eofTurn_cut (cfg : Cfg) {p : PState} (a b : Bytes) (hs : p.cstate = .chunkEof) :
    TurnCut cfg p b (eofTurn cfg p a) (eofTurn cfg p (a ++ b)) := by
  have hturn : turn cfg p (a ++ b) = eofTurn cfg p (a ++ b) := by simp only [turn, hs]
  unfold eofTurn at hturn ⊢
  simp only [] at hturn ⊢
  by_cases hsep : ((skipCR cfg.lax a).take (sepLen cfg.lax) == sepBytes cfg.lax) = true
  · have hn := le_of_take_beq _ _ _ hsep (sepBytes_length cfg.lax)
    have hane : a ≠ [] := by
      rintro rfl
      rw [(skipCR_cases cfg.lax []).resolve_right nofun] at hn
      exact absurd hn (Nat.not_le_of_lt (sepLen_pos cfg.lax))
    rw [skipCR_append cfg.lax a b hane, List.take_append_of_le_length hn, List.drop_append_of_le_length hn, if_pos hsep, if_pos hsep]
    exact ⟨fun h => by cases h; rfl, nofun, nofun⟩
  · rw [if_neg hsep]
    exact ite_elim (fun t => TurnCut cfg p b t _) (fun _ => .err) fun _ => .saved hturn

theorem chunkTurn_cut (cfg : Cfg) {p : PState} (a b : Bytes) (hs : p.cstate = .chunk) :
    TurnCut cfg p b (chunkTurn cfg p a) (chunkTurn cfg p (a ++ b)) := by
  unfold chunkTurn
  simp only []
  by_cases hz : p.chunkSize - a.length = 0
  · -- all of the chunk data is in `a`
    have hle : p.chunkSize ≤ a.length := by omega
    have hz' : p.chunkSize - (a ++ b).length = 0 := by rw [List.length_append]; omega
    rw [hz, hz', List.take_append_of_le_length hle, List.drop_append_of_le_length hle]
    simp only [bne_self_eq_false, Bool.false_eq_true, if_false]
    exact (eofTurn_cut cfg (p := { p with chunkSize := 0, cstate := .chunkEof }) _ b rfl).emit (p := p) rfl _
  · -- `a` ends inside the chunk data: the next call delivers the rest of it
    have hne : (p.chunkSize - a.length != 0) = true := by simpa using hz
    rw [if_pos hne]
    refine ⟨nofun, nofun, fun ht p' new h => ?_⟩
    cases h
    have hq : ∀ q : PState, q.tail = [] → q.cstate = .chunk → ∀ {t : Turn} {e : List Ev},
        t.sim ((chunkTurn cfg q b).emit e) → t.sim ((turn cfg { q with tail := [] } (q.tail ++ b)).emit e) := by
      intro q htl hcs t e h
      rw [pstate_tail_eta q htl, htl, List.nil_append]
      simpa only [turn, hcs] using h
    apply hq { p with chunkSize := p.chunkSize - a.length } ht hs
    unfold chunkTurn
    simp only []
    have e1 : p.chunkSize - a.length - b.length = p.chunkSize - (a ++ b).length := by
      rw [List.length_append]; omega
    have e2 : (a ++ b).take p.chunkSize = a ++ b.take (p.chunkSize - a.length) := by
      rw [List.take_append, List.take_of_length_le (by omega)]
    have e3 : (a ++ b).drop p.chunkSize = b.drop (p.chunkSize - a.length) := by
      rw [List.drop_append, List.drop_eq_nil_of_le (by omega)]; rfl
    have e4 : a.take p.chunkSize = a := List.take_of_length_le (by omega)
    rw [e1, e2, e3, e4]
    split
    · exact ⟨rfl, by simp only [proj_append, proj_dataEv, List.map_append]⟩
    · rw [Turn.emit_emit]
      exact (Turn.sim_refl _).emit (by simp only [proj_append, proj_dataEv, List.map_append, List.append_assoc])

theorem trailersTurn_cut (cfg : Cfg) {p : PState} (a b : Bytes) (hs : p.cstate = .trailers) :
    TurnCut cfg p b (trailersTurn cfg p a) (trailersTurn cfg p (a ++ b)) := by
  have hturn : turn cfg p (a ++ b) = trailersTurn cfg p (a ++ b) := by simp only [turn, hs]
  unfold trailersTurn at hturn ⊢
  cases hf : findSep cfg.lax a with
  | none =>
    simp only []
    exact ite_elim (fun t => TurnCut cfg p b t _) (fun _ => .err) fun _ => .saved hturn
  | some pos =>
    have hbd := findSep_bound cfg.lax a pos hf
    rw [findSep_append_stable cfg.lax a b pos hf]
    simp only []
    rw [List.take_append_of_le_length (Nat.le_of_add_right_le hbd), List.drop_append_of_le_length hbd]
    refine .ite (fun _ => .err) fun _ => .ite (fun _ => .err) fun _ => .ite (fun _ => ?_) fun _ => ?_
    · cases parseHeaders cfg.lax cfg.maxField (p.trailerLines ++ [trailerLine cfg.lax (a.take pos)]) with
      | error e => exact .err
      | ok _ => exact ⟨nofun, fun h => by cases h; rfl, nofun⟩
    · exact ⟨fun h => by cases h; rfl, nofun, nofun⟩

theorem sizeTurn_cut (cfg : Cfg) {p : PState} (a b : Bytes) (hs : p.cstate = .size) :
    TurnCut cfg p b (sizeTurn cfg p a) (sizeTurn cfg p (a ++ b)) := by
  have hturn : turn cfg p (a ++ b) = sizeTurn cfg p (a ++ b) := by simp only [turn, hs]
  unfold sizeTurn at hturn ⊢
  cases hf : findSep cfg.lax a with
  | none =>
    simp only []
    exact ite_elim (fun t => TurnCut cfg p b t _) (fun _ => .err) fun _ => .saved hturn
  | some pos =>
    have hbd := findSep_bound cfg.lax a pos hf
    rw [findSep_append_stable cfg.lax a b pos hf]
    simp only []
    rw [List.take_append_of_le_length (Nat.le_of_add_right_le hbd), List.drop_append_of_le_length hbd]
    refine .ite (fun _ => .err) fun _ => ?_
    cases chunkSizeOf cfg (a.take pos) with
    | none => exact .err
    | some size =>
      refine .ite (fun _ => ?_) fun _ => ?_
      · exact (trailersTurn_cut cfg (p := { p with cstate := .trailers }) _ b rfl).of_tail_eq (p := p) rfl
      · exact (chunkTurn_cut cfg (p := { p with cstate := .chunk, chunkSize := size }) _ b rfl).emit (p := p) rfl _

theorem turn_cut (cfg : Cfg) (p : PState) (a b : Bytes) : TurnCut cfg p b (turn cfg p a) (turn cfg p (a ++ b)) := by
  unfold turn
  split
  · next h => exact sizeTurn_cut cfg a b h
  · next h => exact chunkTurn_cut cfg a b h
  · next h => exact eofTurn_cut cfg a b h
  · next h => exact trailersTurn_cut cfg a b h

theorem chunkedLoop_complete (cfg : Cfg) : ∀ (f1 : Nat) (p : PState) (a b : Bytes) (evs : List Ev) (rest : Bytes)
    (evs' : List Ev) (f2 : Nat), a.length < f1 → chunkedLoop cfg f1 p a evs = (.complete rest, evs') →
    (a ++ b).length < f2 → chunkedLoop cfg f2 p (a ++ b) evs = (.complete (rest ++ b), evs') := by
  intro f1
  induction f1 with
  | zero => intro p a b evs rest evs' f2 h; omega
  | succ n ih =>
    intro p a b evs rest evs' f2 hlen h h2
    by_cases ha : a = []
    · subst ha; rw [chunkedLoop_nil] at h; cases h
    · have hab : a ++ b ≠ [] := List.append_ne_nil_of_left_ne_nil ha b
      rw [chunkedLoop_succ cfg n p a evs ha] at h
      rw [chunkedLoop_fuel cfg f2 _ p _ evs h2 (Nat.lt_succ_self _), chunkedLoop_succ cfg _ p _ evs hab]
      have hext := turn_cut cfg p a b
      cases ht : turn cfg p a with
      | ret r new =>
        rw [ht] at h hext
        cases h
        rw [hext.complete rfl]; rfl
      | next p' c' new =>
        obtain ⟨_, _, j, hj, hjl, rfl⟩ := (turn_ok cfg p a).next ht
        rw [ht] at h hext
        rw [hext.next rfl]
        exact ih _ _ b _ rest evs' _ (by rw [List.length_drop]; omega) h
          (by simp only [List.length_append, List.length_drop]; omega)

end Aio.Http
