import AioModel.C12
import AioModel.C12Spec
import AioProps.C12Lemmas
import AioProps.C12Bound
/-!
# C12 — property theorems about the reader model (`AioModel/C12.lean`)

`Reader.core` is the reader without the two items that *do* depend on how the input was cut
(`len(_payload_fragments)` and the transport's paused flag): parser state, inflate context,
`_partial`, `_tail`, the latched error, every message delivered, queue size.
-/
namespace Aio.C12
open Aio

variable {Z : Inflater}

/-- Feeding `a` and then `b` leaves the reader (messages delivered, error, parser state, tail,
queue size — everything but the fragment count and the pause flag) exactly where feeding
`a ++ b` in one call leaves it.  All configurations, all states, all byte strings. -/
theorem feed_append (c : Cfg) (r : Reader Z) (a b : Bytes) :
    (feed c (feed c r a) b).core = (feed c r (a ++ b)).core := by
  rw [feed_core, feed_core, feed_core]
  generalize r.core = k
  by_cases h : k.exc.isSome
  · have e : ∀ d, feedK c k d = k := fun d => if_pos h
    rw [e, e, e]
  · have e : ∀ d, feedK c k d = runK c k.k (k.tail ++ d) := fun d => if_neg h
    rw [e, e, ← List.append_assoc, runK_append c k.k (k.tail ++ a) b]

/-- Segmentation independence: for every non-empty list of segments, feeding them one by one
gives the same messages, the same error (or none), the same parser state and the same retained
bytes as feeding their concatenation in a single call. -/
theorem segmentation_independent (c : Cfg) : ∀ (segs : List Bytes) (r : Reader Z) (s : Bytes),
    (feedAll c r (s :: segs)).core = (feed c r (s :: segs).flatten).core := by
  intro segs
  induction segs with
  | nil => intro r s; simp [feedAll]
  | cons t rest ih =>
    intro r s
    have h1 : feedAll c r (s :: t :: rest) = feedAll c (feed c r s) (t :: rest) := rfl
    rw [h1, ih (feed c r s) t, feed_append]
    simp

/-- Segmentation independence from the initial state holds for the empty list of segments too
(nothing fed = empty input fed). -/
theorem segmentation_independent_init (c : Cfg) (segs : List Bytes) :
    (feedAll c ({} : Reader Z) segs).core = (feed c ({} : Reader Z) segs.flatten).core := by
  cases segs with
  | nil => rfl
  | cons s t => exact segmentation_independent c t {} s

example : (feedAll (Z := toyInflater) ⟨0, false, true, 100⟩ {} [[0x81], [0x02, 0x68], [0x69]]).p.k.msgs
    = [.text [0x68, 0x69]] := by decide +kernel

/-- The error latch: once `feed_data` has failed, every later call returns at once and changes
nothing — no message is delivered after the violation, whatever arrives. -/
theorem error_latched (c : Cfg) (r : Reader Z) (h : r.exc.isSome) :
    ∀ ds : List Bytes, feedAll c r ds = r := by
  intro ds
  induction ds with
  | nil => rfl
  | cons d ds ih =>
    have : feed c r d = r := by simp [feed, h]
    simp [feedAll, this, ih]

example : (feed (Z := toyInflater) ⟨0, false, true, 100⟩ {} [0x83, 0x00]).exc = some (.ws 1002) := by
  decide +kernel

/-- Within one call nothing is delivered after the violation either: messages only ever grow by
appending, and the call that fails returns the messages delivered before the failing frame
(`loop` stops at the first `fail`) — the delivered list of a failed reader is frozen. -/
theorem delivered_frozen_after_error (c : Cfg) (r : Reader Z) (d : Bytes)
    (h : (feed c r d).exc.isSome) (ds : List Bytes) :
    (feedAll c (feed c r d) ds).p.k.msgs = (feed c r d).p.k.msgs := by
  rw [error_latched c _ h]

/-- Bounded retention: in every state reachable from the initial one by any sequence of
`feed_data` calls (any bytes, any segmentation) with no error so far, the bytes kept for the
incomplete frame/message (`_tail` + fragments + `_partial`) are at most `max_msg_size + 125`. -/
theorem retained_bounded (c : Cfg) (hmax : c.maxMsgSize ≠ 0) (segs : List Bytes) :
    (feedAll c ({} : Reader Z) segs).exc = none →
    retained (feedAll c ({} : Reader Z) segs) ≤ c.maxMsgSize + 125 := by
  intro hexc
  exact InvR_retained c _ (feedAll_InvR c hmax segs {} (InvR_init c hmax)) hexc

/-- Every data message put on the queue is at most `max_msg_size` long — also when it was
inflated: for **any** inflate function (no assumption on zlib) a longer result is rejected. -/
theorem delivered_bounded (c : Cfg) (hmax : c.maxMsgSize ≠ 0) (segs : List Bytes) :
    ∀ m ∈ (feedAll c ({} : Reader Z) segs).p.k.msgs, m.size ≤ max c.maxMsgSize 125 := by
  exact (feedAll_InvR c hmax segs {} (InvR_init c hmax)).2

/-! ## the reference decoder: what is proved, what is not

Full statement (NOT proved, and false on the unchanged code — see the two witnesses below):

    theorem reader_refines_spec (c : Cfg) (segs : List Bytes) :
      let r := feedAll c ({} : Reader Z) segs
      let s := Spec.decode (Z := Z) c segs.flatten
      r.p.k.msgs = s.msgs ∧ r.exc = s.err.map Spec.Viol.toErr

What is proved towards it: the right-hand side does not mention `segs`, and
`segmentation_independent_init` shows the left-hand side does not depend on them either, so the
statement reduces to the single-call case `segs = [data]`; `error_latched`,
`delivered_frozen_after_error`, `retained_bounded`, `delivered_bounded` are its size/latch
clauses.  The frame-by-frame simulation `loopK ≈ Spec.go` under the two excluding hypotheses
(`s.err ≠ some .dataInMessage`, `s.atLimit = false`) is NOT proved; agreement of
model and reference decoder is covered by the correspondence run only (implementation = model
on every generated stream, implementation = Python twin of `Spec.decode` in the direct oracle,
Python twin = `Spec.decode` through the driver).
-/

/-- Finding (size bound): a message of *exactly* `max_msg_size` bytes is rejected with 1009 by
the reader, while the reference decoder ("messages above max_msg_size") delivers it. -/
theorem exact_max_rejected :
    (feed (Z := toyInflater) ⟨3, false, true, 100⟩ {} [0x82, 3, 1, 2, 3]).exc = some (.ws 1009) ∧
    (feed (Z := toyInflater) ⟨3, false, true, 100⟩ {} [0x82, 3, 1, 2, 3]).p.k.msgs = [] ∧
    Spec.decode (Z := toyInflater) ⟨3, false, true, 100⟩ [0x82, 3, 1, 2, 3]
      = ⟨[.binary [1, 2, 3]], none, true⟩ := by decide +kernel

/-- Finding (fragmentation): TEXT(non-fin "a"), BINARY(non-fin "b"), CONT(fin "c") — a new data
frame while a message is open — is delivered as the binary message "abc" with no error; the
reference decoder ends the stream with 1002 at the second frame. -/
theorem nested_data_frame_accepted :
    (feed (Z := toyInflater) ⟨0, false, true, 100⟩ {} [0x01, 1, 0x61, 0x02, 1, 0x62, 0x80, 1, 0x63]).p.k.msgs
      = [.binary [0x61, 0x62, 0x63]] ∧
    (feed (Z := toyInflater) ⟨0, false, true, 100⟩ {} [0x01, 1, 0x61, 0x02, 1, 0x62, 0x80, 1, 0x63]).exc = none ∧
    Spec.decode (Z := toyInflater) ⟨0, false, true, 100⟩ [0x01, 1, 0x61, 0x02, 1, 0x62, 0x80, 1, 0x63]
      = ⟨[], some .dataInMessage, false⟩ := by decide +kernel

/-- Finding F9 (pause wedge), the mechanism for every configuration and every frame: a read
that ends inside a frame's payload (`buf` shorter than the bytes still to read) appends one
fragment — `fragCount` grows by one per such read, whatever its size — and as soon as the count
exceeds `_max_fragments` the reader pauses the transport.  If no message is queued at that
moment, `read` has nothing to return and nothing ever un-pauses: the `toRead - buf.length > 0`
missing bytes of a perfectly legal frame can never arrive, although the same bytes fed in fewer
pieces are delivered (`segmentation_independent`).  Reproduced on the real code by the harness
(2100-byte frame, `max_msg_size` 4096, 2 bytes per read: wedged after 1026 reads). -/
theorem pause_wedge (c : Cfg) (p : P Z) (buf : Bytes)
    (hph : p.k.phase = .payload) (hlt : buf.length < p.k.toRead)
    (hmax : maxFragments c ≠ 0) (hcnt : p.fragCount ≥ maxFragments c)
    (hq : p.k.msgs.drop p.k.nread = []) :
    let r := feed c { p := p, tail := [], exc := none } buf
    r.p.fragCount = p.fragCount + 1 ∧ r.p.paused = true ∧ r.exc = none ∧
    r.p.k.toRead = p.k.toRead - buf.length ∧ r.p.k.toRead ≠ 0 ∧
    (read c r).2 = .empty ∧ (read c r).1.p.paused = true := by
  have hnz : p.k.toRead - buf.length ≠ 0 := by omega
  have hm : microK c p.k buf = .park { p.k with toRead := p.k.toRead - buf.length, frags := p.k.frags ++ buf } := by
    rw [microK_eq, if_pos (want_payload hph ▸ hlt), short, if_pos hph]
  have hr : feed c { p := p, tail := [], exc := none } buf =
      { p := { k := { p.k with toRead := p.k.toRead - buf.length, frags := p.k.frags ++ buf },
               fragCount := p.fragCount + 1,
               paused := if maxFragments c ≠ 0 ∧ p.fragCount + 1 > maxFragments c ∧ ¬ p.paused then true else p.paused },
        tail := [], exc := none } := by
    unfold feed
    simp only [Option.isSome_none, Bool.false_eq_true, if_false, List.nil_append]
    rw [fuelFor_succ]
    simp only [loop, micro, hm]
  have hp : (if maxFragments c ≠ 0 ∧ p.fragCount + 1 > maxFragments c ∧ ¬ p.paused then true else p.paused) = true := by
    by_cases hpz : p.paused = true
    · rw [if_neg fun h => h.2.2 hpz]; exact hpz
    · exact if_pos ⟨hmax, Nat.lt_succ_of_le hcnt, hpz⟩
  rw [hr, hp]
  refine ⟨rfl, rfl, rfl, rfl, hnz, ?_, ?_⟩
  all_goals
    unfold read
    simp only [hq]

-- the hypotheses are reachable: after the 4 header bytes of a 2100-byte frame the reader is in
-- the payload state with 2100 bytes to read and an empty queue
example : let r := feed (Z := toyInflater) ⟨4096, false, true, 131072⟩ {} [0x82, 0x7e, 0x08, 0x34]
    r.p.k.phase = .payload ∧ r.p.k.toRead = 2100 ∧ r.p.k.msgs = [] ∧ r.p.fragCount = 1 ∧
    maxFragments ⟨4096, false, true, 131072⟩ = 1024 := by decide +kernel

/-- Flow control of the data queue: reading a message first subtracts its size and only then tests
the resume condition — so whenever the bytes still queued after the read are below the limit, the
transport is un-paused by that very read.  In particular reading the only queued message
(`qsize = m.size`) always un-pauses (for any positive limit), however large the message was. -/
theorem read_unpauses (c : Cfg) (r : Reader Z) (m : Msg) (rest : List Msg)
    (h : r.p.k.msgs.drop r.p.k.nread = m :: rest) (hlt : r.p.k.qsize - m.size < c.queueLimit) :
    (read c r).2 = .msg m ∧ (read c r).1.p.paused = false ∧ (read c r).1.p.k.qsize = r.p.k.qsize - m.size := by
  unfold read
  rw [h]
  refine ⟨rfl, ?_, rfl⟩
  show (if r.p.k.qsize - m.size < c.queueLimit ∧ r.p.paused = true then false else r.p.paused) = false
  cases hp : r.p.paused <;> simp [hlt]

theorem read_last_unpauses (c : Cfg) (hl : 0 < c.queueLimit) (r : Reader Z) (m : Msg)
    (h : r.p.k.msgs.drop r.p.k.nread = [m]) (hq : r.p.k.qsize = m.size) :
    (read c r).1.p.paused = false :=
  (read_unpauses c r m [] h (by rw [hq]; simpa using hl)).2.1

end Aio.C12
