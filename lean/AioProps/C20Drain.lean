import AioModel.C20Drain
/-!
# C20 — property theorems, part 2: shutdown drains

Model: `AioModel/C20Drain.lean` (= `Server.pre_shutdown/shutdown`,
`RequestHandler.shutdown/close/start/data_received`, `helpers.ceil_timeout`).
`runFrom F c evs` drives one connection through an arbitrary sequence of timed client /
server labels, letting the internal events (handler completion, shutdown deadlines) fire in
time order in between; statements about `runFrom` for all `evs` are statements about all
schedules.  Times are ticks; `tps` ticks are one second (generated constant).
-/
namespace Aio.C20.Drain

def isHs : Obs → Bool
  | .hs _ => true
  | _ => false
def isHr : Obs → Bool
  | .hr _ => true
  | _ => false
def isDone : Obs → Bool
  | .done _ => true
  | _ => false
/-- number of handlers started so far -/
def hsCount (c : Conn) : Nat := (c.obs.filter isHs).length
/-- number of handlers that returned a response so far -/
def hrCount (c : Conn) : Nat := (c.obs.filter isHr).length

@[simp] theorem hsCount_obs_append (c : Conn) (l : List Obs) :
    (List.filter isHs (c.obs ++ l)).length = hsCount c + (l.filter isHs).length := by
  simp [hsCount, List.filter_append]

@[simp] theorem hrCount_obs_append (c : Conn) (l : List Obs) :
    (List.filter isHr (c.obs ++ l)).length = hrCount c + (l.filter isHr).length := by
  simp [hrCount, List.filter_append]

/-! ## `ceil_timeout` -/

/-- `ceil_timeout(T)`: no deadline exactly when `T = 0`; otherwise the deadline is not before
`now + T` and less than one second after it. -/
theorem deadline_le (now T : Nat) :
    (deadline now T = none ↔ T = 0) ∧
      ∀ d, deadline now T = some d → now + T ≤ d ∧ d < now + T + tps := by
  have htps : tps = 8 := by decide  -- `omega` divides by literals only
  unfold deadline
  by_cases h : T = 0
  · simp [h]
  · rw [if_neg h, htps]
    split <;> simp [h] <;> omega

theorem deadline_pos (now T : Nat) (hT : 0 < T) :
    ∃ d, deadline now T = some d ∧ now + T ≤ d ∧ d < now + T + tps := by
  cases hd : deadline now T with
  | none => exact absurd ((deadline_le now T).1.mp hd) (by omega)
  | some d => exact ⟨d, rfl, (deadline_le now T).2 d hd⟩

/-! What `closeTransport`, `finishShutdown`, `afterHandler` and `requestDone` leave alone, for an
arbitrary class `p` of observations (used with `isHs`, `isHr`, `isDone`). -/

section
variable (p : Obs → Bool) (c : Conn) (t : Nat)

theorem closeTransport_filter (hc : p (.close t) = false) :
    (closeTransport c t).obs.filter p = c.obs.filter p := by
  unfold closeTransport; split <;> simp [List.filter_append, hc]

theorem finishShutdown_filter (hc : p (.close t) = false) (hd : p (.done t) = false) :
    (finishShutdown c t).obs.filter p = c.obs.filter p := by
  simp [finishShutdown, List.filter_append, hd, closeTransport_filter p c t hc]

theorem afterHandler_filter (hc : p (.close t) = false)
    (hs : p (.hs t) = false ∨ c.closeFlag = true ∨ c.forceClose = true) :
    (afterHandler c t).obs.filter p = c.obs.filter p := by
  simp only [afterHandler]
  split
  · next h =>
    simp only [Bool.and_eq_true, Bool.not_eq_true'] at h
    have hs : p (.hs t) = false := by simpa [h.1, h.2] using hs
    split <;> simp [startReq, List.filter_append, hs]
  · split
    · rfl
    · exact closeTransport_filter p _ t hc

theorem requestDone_filter (hc : p (.close t) = false) (hd : p (.done t) = false)
    (hs : p (.hs t) = false ∨ c.closeFlag = true ∨ c.forceClose = true) :
    (requestDone c t).obs.filter p = c.obs.filter p := by
  simp only [requestDone]
  split <;> simp only [finishShutdown_filter p _ t hc hd, afterHandler_filter p c t hc hs]

theorem afterHandler_frame : (afterHandler c t).closeFlag = c.closeFlag ∧
    (afterHandler c t).forceClose = c.forceClose ∧ (afterHandler c t).sd = c.sd := by
  simp only [afterHandler, closeTransport, startReq]
  split <;> split <;> (try split) <;> exact ⟨rfl, rfl, rfl⟩

theorem finishShutdown_frame : (finishShutdown c t).closeFlag = c.closeFlag ∧
    (finishShutdown c t).forceClose = c.forceClose ∧ (finishShutdown c t).cur = c.cur := by
  simp only [finishShutdown, closeTransport]
  split <;> exact ⟨rfl, rfl, rfl⟩

theorem requestDone_closeFlag : (requestDone c t).closeFlag = c.closeFlag := by
  simp only [requestDone]
  split <;> simp only [(finishShutdown_frame _ t).1, (afterHandler_frame c t).1]

theorem afterHandler_forced (h : c.forceClose = true) :
    afterHandler c t = { c with cur := .idle, taskAlive := false } := by
  simp [afterHandler, h]

end

theorem requestDone_hs (c : Conn) (t : Nat) (h : c.closeFlag = true) :
    (requestDone c t).obs.filter isHs = c.obs.filter isHs :=
  requestDone_filter isHs c t rfl rfl (.inr (.inl h))

theorem advance_succ (F t : Nat) (c : Conn) :
    advance (F + 1) t c = match nextInternal c with
      | some (u, ev) => if u ≤ t then advance F t (fire c u ev) else c
      | none => c := rfl

theorem advance_of_none (F t : Nat) (c : Conn) (h : nextInternal c = none) : advance F t c = c := by
  cases F with
  | zero => rfl
  | succ F => rw [advance_succ, h]

theorem advance_fire (F t : Nat) (c : Conn) (u : Nat) (ev : Internal)
    (hn : nextInternal c = some (u, ev)) (hu : u ≤ t) :
    advance (F + 1) t c = advance F t (fire c u ev) := by
  rw [advance_succ, hn]; exact if_pos hu

/-- a property preserved by every internal event that can actually fire and by every label
is preserved by any run -/
theorem runFrom_induction (P : Conn → Prop)
    (hfire : ∀ c u ev, P c → nextInternal c = some (u, ev) → P (fire c u ev))
    (hstep : ∀ c t l, P c → P (step c t l)) :
    ∀ F evs c, P c → P (runFrom F c evs) := by
  have hadv : ∀ F t c, P c → P (advance F t c) := by
    intro F t c h
    fun_induction advance F t c with
    | case1 => exact h
    | case2 _ _ _ _ _ hn _ ih => exact ih (hfire _ _ _ h hn)
    | case3 => exact h
    | case4 => exact h
  intro F evs
  induction evs with
  | nil => intro c h; exact h
  | cons e evs ih => exact fun c h => ih _ (hstep _ _ _ (hadv F e.1 c h))

theorem settle_induction (P : Conn → Prop)
    (hfire : ∀ c u ev, P c → nextInternal c = some (u, ev) → P (fire c u ev)) :
    ∀ F c, P c → P (settle F c) := by
  intro F c h
  fun_induction settle F c with
  | case1 => exact h
  | case2 _ _ _ _ hn ih => exact ih (hfire _ _ _ h hn)
  | case3 => exact h

/-! ## no new requests after shutdown -/

def isClient : Label → Bool
  | .recv _ => true
  | .recvPartial => true
  | .recvBody => true
  | _ => false

/-- `data_received` returns at once when `_close` is set -/
theorem step_client (c : Conn) (t : Nat) (l : Label) (h : c.closeFlag = true)
    (hl : isClient l = true) : step c t l = c := by
  cases l with
  | recvPartial => rfl
  | recv | recvBody => simp [step, h]
  | _ => cases hl

theorem preShutdown_sets_close (c : Conn) (t : Nat) : (step c t .preShutdown).closeFlag = true := by
  simp only [step]; split <;> rfl

theorem step_of_closeFlag (p : Obs → Bool) (c : Conn) (t : Nat) (l : Label) (h : c.closeFlag = true)
    (hc : p (.close t) = false) (hd : p (.done t) = false) :
    (step c t l).closeFlag = true ∧ (step c t l).cur = c.cur ∧
      (step c t l).obs.filter p = c.obs.filter p := by
  cases l with
  | preShutdown => simp only [step]; split <;> exact ⟨rfl, rfl, rfl⟩
  | shutdownStart T =>
    simp only [step]
    split
    · split
      · exact ⟨h, rfl, rfl⟩
      · exact ⟨(finishShutdown_frame _ t).1.trans h, (finishShutdown_frame _ t).2.2,
          finishShutdown_filter p _ t hc hd⟩
    · exact ⟨h, rfl, rfl⟩
  | _ => rw [step_client c t _ h rfl]; exact ⟨h, rfl, rfl⟩

theorem fire_timeout (p : Obs → Bool) (c : Conn) (u : Nat) (hx : p (.hx u) = false)
    (sx : p (.sx u) = false) (hc : p (.close u) = false) (hd : p (.done u) = false) :
    ((fire c u .timeout).cur = c.cur ∨ (fire c u .timeout).cur = .idle) ∧
      (fire c u .timeout).obs.filter p = c.obs.filter p := by
  simp only [fire]
  split
  · split
    · exact ⟨.inr (finishShutdown_frame _ u).2.2, by simp [finishShutdown_filter p _ u hc hd, List.filter_append, hx]⟩
    · exact ⟨.inl rfl, rfl⟩
  · rw [finishShutdown_filter p _ u hc hd, (finishShutdown_frame _ u).2.2]
    split
    · exact ⟨.inl rfl, rfl⟩
    · refine ⟨.inr rfl, ?_⟩
      split <;> simp [List.filter_append, hx, sx]
  · exact ⟨.inl rfl, rfl⟩

theorem fire_closeFlag (c : Conn) (u : Nat) (ev : Internal) : (fire c u ev).closeFlag = c.closeFlag := by
  cases ev <;> simp only [fire] <;> repeat' split
  all_goals first | rfl | exact requestDone_closeFlag _ _ | exact (finishShutdown_frame _ _).1

theorem fire_hs_of_closeFlag (c : Conn) (u : Nat) (ev : Internal) (h : c.closeFlag = true) :
    (fire c u ev).obs.filter isHs = c.obs.filter isHs := by
  cases ev with
  | timeout => exact (fire_timeout isHs c u rfl rfl rfl rfl).2
  | handlerDone =>
    simp only [fire]
    repeat' split
    all_goals simp [requestDone_hs, h, List.filter_append, isHs]

/-- **No new requests are accepted after the shutdown moment — all schedules.**  Once
`pre_shutdown` has marked a connection (`_close`), no handler is ever started on it again,
whatever bytes arrive (new requests, pipelined or not), whatever requests were already
queued, whenever handlers finish and deadlines fire. -/
theorem no_new_requests_after_shutdown (F : Nat) (evs : List (Nat × Label)) (c : Conn)
    (h : c.closeFlag = true) :
    hsCount (runFrom F c evs) = hsCount c ∧ (runFrom F c evs).closeFlag = true := by
  have := runFrom_induction (fun c' => c'.closeFlag = true ∧ hsCount c' = hsCount c)
    (fun c' u ev hc _ =>
      ⟨(fire_closeFlag c' u ev).trans hc.1, (congrArg List.length (fire_hs_of_closeFlag c' u ev hc.1)).trans hc.2⟩)
    (fun c' t l hc =>
      have ⟨h1, _, h2⟩ := step_of_closeFlag isHs c' t l hc.1 rfl rfl
      ⟨h1, (congrArg List.length h2).trans hc.2⟩)
    F evs c ⟨h, rfl⟩
  exact ⟨this.2, this.1⟩

/-! ## idle connections -/

theorem quiet_of_closeFlag (F : Nat) (c : Conn) (h : c.closeFlag = true) (hn : nextInternal c = none)
    (evs : List (Nat × Label)) (hcl : ∀ e ∈ evs, isClient e.2 = true) : runFrom F c evs = c := by
  induction evs with
  | nil => rfl
  | cons e evs ih =>
    simp only [runFrom, List.foldl_cons, advance_of_none _ _ _ hn,
      step_client c _ _ h (hcl e (by simp))]
    exact ih (fun e' he' => hcl e' (by simp [he']))

/-- **Idle keep-alive connections are closed when `Server.shutdown` starts — all client
schedules.**  A connection with no request in progress at the shutdown moment `t0` (fresh,
partial head, or between keep-alive requests) is marked by `pre_shutdown`; whatever bytes the
client sends afterwards, no handler starts, and at `ts` (the moment `Server.shutdown` is
entered, `ts = t0 +` the time the `on_shutdown` handlers take) its transport is closed and
its `shutdown` returns immediately.  With `on_shutdown` handlers that take no time this is
"at once"; see `idle_open_until_on_shutdown_done` for the other case. -/
theorem idle_closed_at_shutdown (F : Nat) (c : Conn) (t0 ts T : Nat) (evs : List (Nat × Label))
    (hcur : c.cur = .idle) (hsd : c.sd = .none) (hopen : c.transportOpen = true)
    (hcl : ∀ e ∈ evs, isClient e.2 = true) :
    let c1 := step c t0 .preShutdown
    let c3 := step (advance F ts (runFrom F c1 evs)) ts (.shutdownStart T)
    c3.transportOpen = false ∧ c3.sd = .done ∧ c3.obs = c.obs ++ [.close ts, .done ts] := by
  intro c1 c3
  have hc1 : c1 = { c with closeFlag := true, taskAlive := false } := by simp [c1, step, hcur]
  have hn : nextInternal c1 = none := by simp [hc1, nextInternal, hcur, hsd]
  have e3 : c3 = step c1 ts (.shutdownStart T) := by
    simp only [c3, quiet_of_closeFlag F c1 (by rw [hc1]) hn evs hcl, advance_of_none _ _ _ hn]
  rw [e3, hc1]
  simp [step, hcur, finishShutdown, closeTransport, hopen]

/-! ## requests in flight -/

/-- **A request being handled may complete during the shutdown timeout.**  A handler that is
running at the shutdown moment `t0` and returns by itself at `fin`, with `fin` before the end
of the first timeout window entered at `ts ≥ t0` (or any `fin` when there is no timeout),
does return at `fin`, its complete response reaches the still-open transport at `fin`, it is
never cancelled, and the transport is closed afterwards.  (`hsend`: the response is written in
one piece; a streamed body: `streamed_response_within_timeout_completes`.) -/
theorem inflight_may_finish (F : Nat) (c : Conn) (fin t0 ts T tEnd : Nat)
    (hcur : c.cur = .sleeping fin) (hopen : c.transportOpen = true) (hsd : c.sd = .none)
    (hfc : c.forceClose = false) (hsend : c.sendDur = 0)
    (h0 : t0 < fin) (h01 : t0 ≤ ts) (hend : fin ≤ tEnd) (hts : ts ≤ tEnd)
    (hT : T = 0 ∨ fin < ts + T) :
    let c1 := step c t0 .preShutdown
    let c2 := step (advance (F + 1) ts c1) ts (.shutdownStart T)
    let c3 := advance (F + 1) tEnd c2
    c3.obs = c.obs ++ [.hr fin, .resp fin, .close fin] ++ (if fin ≤ ts then [.done ts] else [.done fin]) ∧
      c3.transportOpen = false ∧ c3.cur = .idle := by
  intro c1 c2 c3
  have hc1 : c1 = { c with closeFlag := true } := by simp [c1, step, hcur]
  have hn1 : nextInternal c1 = some (fin, .handlerDone) := by simp [hc1, nextInternal, hcur, hsd]
  by_cases hle : fin ≤ ts
  · -- the handler returns while the on_shutdown handlers are still running
    have hf : fire c1 fin .handlerDone =
        { c with closeFlag := true, cur := .idle, taskAlive := false, transportOpen := false,
                 obs := c.obs ++ [.hr fin, .resp fin] ++ [.close fin] } := by
      simp [fire, requestDone, afterHandler, closeTransport, hc1, hopen, hfc, hsd, hcur, hsend]
    have ha : advance (F + 1) ts c1 = fire c1 fin .handlerDone := by
      rw [advance_fire _ _ _ _ _ hn1 hle, advance_of_none]; simp [hf, nextInternal, hsd]
    simp only [c3, c2, ha, hf]
    rw [advance_of_none] <;> simp [step, finishShutdown, closeTransport, nextInternal, hle]
  · -- the handler is still running when Server.shutdown starts
    have ha : advance (F + 1) ts c1 = c1 := by rw [advance_succ, hn1]; simp [hle]
    have h2 : c2 = { c with closeFlag := true, forceClose := true, T := T, sd := .wait1 (deadline ts T) } := by
      show step (advance (F + 1) ts c1) ts (.shutdownStart T) = _
      rw [ha, hc1]; simp [step, hcur]
    have hn2 : nextInternal c2 = some (fin, .handlerDone) := by
      rw [h2]
      simp only [nextInternal, hcur]
      cases hd : deadline ts T with
      | none => rfl
      | some d =>
        have := ((deadline_le ts T).2 d hd).1
        have hT' : fin < ts + T := hT.resolve_left fun h => by
          rw [(deadline_le ts T).1.mpr h] at hd; cases hd
        simp [show fin ≤ d by omega]
    simp only [c3]
    rw [advance_fire _ _ _ _ _ hn2 hend, advance_of_none] <;>
      simp [h2, fire, requestDone, afterHandler, finishShutdown, closeTransport, nextInternal, hopen, hcur, hsend, hle]

def hasFinishTime : Cur → Bool
  | .sleeping _ => true
  | .sleepRead _ => true
  | .sending _ => true
  | _ => false

theorem handlerDone_pending (c : Conn) (u : Nat) (h : nextInternal c = some (u, .handlerDone)) :
    hasFinishTime c.cur = true := by
  cases hc : c.cur <;> first | rfl | (simp only [nextInternal, hc] at h; split at h <;> simp_all)

/-- **F20 — all schedules.**  A handler that is still waiting for the rest of its request
body when `pre_shutdown` marks the connection can never complete: every later byte is
dropped (`data_received` returns at once when `_close` is set), so whatever arrives and
whenever, no handler on this connection ever returns a response again; it can only be
cancelled. -/
theorem inflight_body_never_completes (F : Nat) (evs : List (Nat × Label)) (c : Conn) (d : Nat)
    (hclose : c.closeFlag = true) (hcur : c.cur = .waitBody d) :
    hrCount (runFrom F c evs) = hrCount c := by
  have := runFrom_induction
    (fun c' => c'.closeFlag = true ∧ hasFinishTime c'.cur = false ∧ hrCount c' = hrCount c)
    (by
      intro c' u ev ⟨h1, h2, h3⟩ hn
      cases ev with
      | handlerDone => rw [handlerDone_pending c' u hn] at h2; cases h2
      | timeout =>
        obtain ⟨hcur', hobs⟩ := fire_timeout isHr c' u rfl rfl rfl rfl
        exact ⟨(fire_closeFlag c' u _).trans h1, by rcases hcur' with e | e <;> rw [e] <;> first | exact h2 | rfl,
          (congrArg List.length hobs).trans h3⟩)
    (by
      intro c' t l ⟨h1, h2, h3⟩
      obtain ⟨e1, e2, e3⟩ := step_of_closeFlag isHr c' t l h1 rfl rfl
      exact ⟨e1, e2 ▸ h2, (congrArg List.length e3).trans h3⟩)
    F evs c ⟨hclose, by rw [hcur]; rfl, rfl⟩
  exact this.2.2

/-! ## cancelled at the latest after twice the timeout -/

/-- the connection's `shutdown` has returned: handler gone, transport closed -/
structure Closed (c : Conn) : Prop where
  sd : c.sd = .done
  cur : c.cur = .idle
  tr : c.transportOpen = false

theorem Closed.quiet {c : Conn} (h : Closed c) : nextInternal c = none := by
  simp [nextInternal, h.sd, h.cur]

theorem closed_advance {F t : Nat} {c : Conn} (h : Closed c) : Closed (advance F t c) := by
  rw [advance_of_none _ _ _ h.quiet]; exact h

theorem finishShutdown_closed (c : Conn) (t : Nat) (h : c.cur = .idle) : Closed (finishShutdown c t) :=
  ⟨rfl, (finishShutdown_frame c t).2.2.trans h, by
    simp only [finishShutdown, closeTransport]
    split
    · rfl
    · next ho => exact Bool.eq_false_iff.mpr ho⟩

theorem requestDone_closed (c : Conn) (t : Nat) (hf : c.forceClose = true)
    (hsd : (∃ d, c.sd = .wait1 d) ∨ ∃ d, c.sd = .wait2 d) : Closed (requestDone c t) := by
  rw [requestDone, afterHandler_forced c t hf]
  rcases hsd with ⟨d, h⟩ | ⟨d, h⟩ <;> simp only [h] <;> exact finishShutdown_closed _ _ rfl

theorem pending_of_deadline (c : Conn) (d : Nat)
    (h : c.sd = .wait1 (some d) ∨ c.sd = .wait2 (some d)) :
    ∃ u ev, nextInternal c = some (u, ev) ∧ u ≤ d ∧ (ev = .timeout → u = d) := by
  have hd : ∃ u ev, some (d, Internal.timeout) = some (u, ev) ∧ u ≤ d ∧ (ev = .timeout → u = d) :=
    ⟨d, _, rfl, Nat.le_refl d, fun _ => rfl⟩
  rcases h with h | h <;> cases hc : c.cur <;> simp only [nextInternal, h, hc] <;>
    first
      | exact hd
      | (split
         · next hle => exact ⟨_, _, rfl, hle, fun h => nomatch h⟩
         · exact hd)

theorem fire_waiting (c : Conn) (u : Nat) (ev : Internal) (hf : c.forceClose = true)
    (hs : c.sendDur = 0) (hsd : (∃ d, c.sd = .wait1 d) ∨ ∃ d, c.sd = .wait2 d) :
    Closed (fire c u ev) ∨ ((∃ d, c.sd = .wait1 d) ∧ ev = .timeout ∧
      fire c u ev = { c with sd := .wait2 (deadline u c.T), payloadExc := true }) := by
  cases ev with
  | handlerDone =>
    left
    simp only [fire]
    cases c.cur <;> simp only [hs, if_true] <;> (try split) <;>
      first
        | exact requestDone_closed _ _ hf hsd
        | exact requestDone_closed _ _ rfl hsd
  | timeout =>
    simp only [fire]
    rcases hsd with ⟨d, h⟩ | ⟨d, h⟩ <;> simp only [h]
    · split
      · exact .inl (finishShutdown_closed _ _ rfl)
      · exact .inr ⟨⟨d, rfl⟩, trivial, rfl⟩
    · left
      split
      · next hi => exact finishShutdown_closed _ _ hi
      · exact finishShutdown_closed _ _ rfl

theorem closed_after_wait2 (F : Nat) (c : Conn) (d B : Nat) (hf : c.forceClose = true)
    (hs : c.sendDur = 0) (hsd : c.sd = .wait2 (some d)) (hB : d ≤ B) : Closed (advance (F + 1) B c) := by
  obtain ⟨u, ev, hn, hu, -⟩ := pending_of_deadline c d (.inr hsd)
  rw [advance_fire F _ _ u ev hn (by omega)]
  rcases fire_waiting c u ev hf hs (.inr ⟨_, hsd⟩) with h | ⟨⟨_, h⟩, -⟩
  · exact closed_advance h
  · rw [hsd] at h; cases h

/-- `d2` is the deadline of the second wait, entered at `d1`; whatever the handler is doing, two
events suffice, so any fuel from 2 on does (`cancelled_by_2T` is stated with `F + 3`). -/
theorem closed_after_deadlines (F : Nat) (c : Conn) (d1 d2 B : Nat) (hf : c.forceClose = true)
    (hs : c.sendDur = 0) (hsd : c.sd = .wait1 (some d1)) (hdd : deadline d1 c.T = some d2)
    (h1 : d1 ≤ B) (h2 : d2 ≤ B) : Closed (advance (F + 2) B c) := by
  -- first wait: the handler returns, or is parked in its body and cancelled, or the wait expires at `d1`
  obtain ⟨u, ev, hn, hu, hev⟩ := pending_of_deadline c d1 (.inl hsd)
  rw [advance_fire (F + 1) _ _ u ev hn (by omega)]
  rcases fire_waiting c u ev hf hs (.inl ⟨_, hsd⟩) with h | ⟨-, rfl, h⟩
  · exact closed_advance h
  · rw [h, hev rfl, hdd]
    exact closed_after_wait2 F _ d2 B hf hs rfl h2

/-- **Handlers are cancelled at the latest after twice the timeout (plus rounding).**  With a
positive `shutdown_timeout` `T`, a connection with a request in progress when
`Server.shutdown` starts at `ts` — handler sleeping, waiting for its body, about to read its
buffered body, or already writing a streamed response, however long it would still take —
has, by `ts + 2·T + 2 s`, either completed or been cancelled, its `shutdown` has returned and
its transport is closed.  (The two seconds are the two possible roundings of `ceil_timeout`,
absent for `T ≤ 5 s` by `deadline_le`.  `hs`: a handler that is still running will write its
response in one piece; the model also bounds the streamed case, not proved here.) -/
theorem cancelled_by_2T (F : Nat) (c : Conn) (ts T : Nat) (hT : 0 < T)
    (hcur : c.cur ≠ .idle) (hs : c.sendDur = 0) :
    Closed (advance (F + 3) (ts + 2 * T + 2 * tps) (step c ts (.shutdownStart T))) := by
  obtain ⟨d1, hd, b1⟩ := deadline_pos ts T hT
  obtain ⟨d2, hdd, b2⟩ := deadline_pos d1 T hT
  refine closed_after_deadlines (F + 1) _ d1 d2 _ ?_ ?_ ?_ ?_ (by omega) (by omega) <;>
    simp [step, hcur, hd, hs, hdd]

/-! ## every connection is closed when cleanup returns -/

/-- invariant of every reachable connection state: a running `shutdown` implies
`_force_close`; once `shutdown` has returned the handler is gone and the transport closed -/
structure Sound (c : Conn) : Prop where
  force : c.sd ≠ .none → c.forceClose = true
  fin : c.obs.filter isDone ≠ [] → Closed c ∧ c.taskAlive = false

theorem finishShutdown_sound (c : Conn) (t : Nat) (hcur : c.cur = .idle) (hf : c.forceClose = true) :
    Sound (finishShutdown c t) :=
  ⟨fun _ => (finishShutdown_frame c t).2.1.trans hf, fun _ => ⟨finishShutdown_closed c t hcur, rfl⟩⟩

theorem requestDone_sound (c : Conn) (t : Nat) (h : Sound c) (hnd : c.obs.filter isDone = []) :
    Sound (requestDone c t) := by
  obtain ⟨e1, e2, e3⟩ := afterHandler_frame c t
  have hA : Sound (afterHandler c t) := by
    refine ⟨fun hs => ?_, fun hd => ?_⟩
    · rw [e2]; rw [e3] at hs; exact h.force hs
    · rw [afterHandler_filter isDone c t rfl (.inl rfl)] at hd; exact absurd hnd hd
  have hF : c.sd ≠ .none → Sound (finishShutdown (afterHandler c t) t) := fun hsd => by
    have hf := h.force hsd
    rw [afterHandler_forced c t hf]
    exact finishShutdown_sound _ _ rfl hf
  simp only [requestDone, e3]
  split
  · next hs => exact hF (by simp [hs])
  · next hs => exact hF (by simp [hs])
  · exact hA

theorem fire_sound (c : Conn) (u : Nat) (ev : Internal) (h : Sound c)
    (hn : nextInternal c = some (u, ev)) : Sound (fire c u ev) := by
  -- a finished connection has no internal event left
  have hnd : c.obs.filter isDone = [] := Decidable.byContradiction fun hd => by
    rw [(h.fin hd).1.quiet] at hn; cases hn
  cases ev with
  | handlerDone =>
    have hR : ∀ (fc : Bool) (l : List Obs), (fc = true ∨ fc = c.forceClose) → l.filter isDone = [] →
        Sound (requestDone { c with forceClose := fc, obs := c.obs ++ l } u) := by
      intro fc l hfc hl
      refine requestDone_sound _ _ ⟨fun hs => ?_, fun hd => ?_⟩ (by simp [List.filter_append, hnd, hl])
      · rcases hfc with rfl | rfl
        · rfl
        · exact h.force hs
      · simp [List.filter_append, hnd, hl] at hd
    simp only [fire]
    split
    · exact hR _ _ (.inr rfl) (by split <;> rfl)
    · split
      · exact hR _ _ (.inl rfl) rfl
      · exact hR _ _ (.inr rfl) (by split <;> rfl)
    · split
      · exact hR _ _ (.inr rfl) (by split <;> rfl)
      · exact ⟨h.force, by simp [List.filter_append, hnd, isDone]⟩
  | timeout =>
    simp only [fire]
    split
    · next hsd =>
      have hf := h.force (by simp [hsd])
      split
      · exact finishShutdown_sound _ _ rfl hf
      · exact ⟨fun _ => hf, fun hd => absurd hnd hd⟩
    · next hsd =>
      have hf := h.force (by simp [hsd])
      split
      · next hi => exact finishShutdown_sound _ _ hi hf
      · exact finishShutdown_sound _ _ rfl hf
    · exact h

theorem step_sound (c : Conn) (t : Nat) (l : Label) (h : Sound c) : Sound (step c t l) := by
  -- a finished connection ignores what the client sends
  have hnd : ¬(c.forceClose || c.closeFlag || !c.transportOpen) = true → c.obs.filter isDone = [] :=
    fun hflags => Decidable.byContradiction fun hd => by simp [(h.fin hd).1.tr] at hflags
  cases l with
  | recvPartial => exact h
  | recv rs =>
    simp only [step]
    split
    · exact h
    · next hflags =>
      split
      · split
        · exact ⟨h.force, by simp [startReq, hnd hflags, isDone, List.filter_append]⟩
        · exact ⟨h.force, fun hd => absurd (hnd hflags) hd⟩
      · exact ⟨h.force, fun hd => absurd (hnd hflags) hd⟩
  | recvBody =>
    simp only [step]
    split
    · exact h
    · next hflags =>
      split
      · exact ⟨h.force, fun hd => absurd (hnd hflags) hd⟩
      · exact h
  | preShutdown =>
    simp only [step]
    split
    · exact ⟨h.force, fun hd => ⟨⟨(h.fin hd).1.sd, (h.fin hd).1.cur, (h.fin hd).1.tr⟩, rfl⟩⟩
    · exact ⟨h.force, fun hd => ⟨⟨(h.fin hd).1.sd, (h.fin hd).1.cur, (h.fin hd).1.tr⟩, (h.fin hd).2⟩⟩
  | shutdownStart T =>
    simp only [step]
    split
    · next hi =>
      split
      · next hta =>
        refine ⟨fun _ => rfl, fun hd => ?_⟩
        rw [(h.fin hd).2] at hta; cases hta
      · exact finishShutdown_sound _ _ hi rfl
    · next hi => exact ⟨fun _ => rfl, fun hd => absurd (h.fin hd).1.cur hi⟩

theorem runConn_sound (T t0 ds : Nat) (script : List (Nat × Label)) : Sound (runConn T t0 ds script) :=
  settle_induction Sound fire_sound _ _
    (runFrom_induction Sound fire_sound step_sound _ _ _ ⟨fun h => absurd rfl h, fun h => absurd rfl h⟩)

theorem doneTime_logged (c : Conn) (t : Nat) (h : doneTime c = some t) : c.obs.filter isDone ≠ [] := by
  obtain ⟨o, ho, hf⟩ := List.exists_of_findSome?_eq_some h
  cases o <;> first | exact List.ne_nil_of_mem (List.mem_filter.mpr ⟨ho, rfl⟩) | cases hf

theorem returnTime_some (ts : Nat) (cs : List Conn) (r : Nat) (h : returnTime ts cs = some r) :
    ∀ c ∈ cs, ∃ t, doneTime c = some t := by
  induction cs generalizing r with
  | nil => simp
  | cons c cs ih =>
    simp only [returnTime] at h
    split at h
    · next d r' hd hr =>
      intro c' hc'
      rcases List.mem_cons.mp hc' with rfl | hc'
      · exact ⟨d, hd⟩
      · exact ih r' hr c' hc'
    · cases h

/-- **Every connection is closed when cleanup returns — all scenarios.**  Whatever the
connections were doing (any client scripts, any timeout, any duration of the `on_shutdown`
handlers): if `Server.shutdown` — and with it `runner.cleanup()` — returns at all, every
connection's transport has been closed and no handler is left running. -/
theorem all_closed_when_cleanup_returns (T t0 ds : Nat) (scripts : List (List (Nat × Label))) (r : Nat)
    (h : returnTime (t0 + ds) (scripts.map (runConn T t0 ds)) = some r) :
    ∀ c ∈ scripts.map (runConn T t0 ds), c.transportOpen = false ∧ c.cur = .idle := by
  intro c hc
  obtain ⟨t, ht⟩ := returnTime_some _ _ r h c hc
  obtain ⟨sc, _, rfl⟩ := List.mem_map.mp hc
  have := ((runConn_sound T t0 ds sc).fin (doneTime_logged _ t ht)).1
  exact ⟨this.tr, this.cur⟩

/-! ## counterexamples on the model of the unchanged code (kernel-checked) -/

/-- **Idle connections stay open while `on_shutdown` runs.**  Keep-alive connection idle
since tick 3, shutdown at tick 16, `on_shutdown` handlers take 24 ticks (3 s): the transport
is closed at tick 40, not at 16 (the documentation lists closing idle connections as step 2,
before `on_shutdown`). -/
theorem idle_open_until_on_shutdown_done :
    (runConn 80 16 24 [(0, .recv [⟨.get, 3, 0⟩])]).obs =
      [.hs 0, .hr 3, .resp 3, .close 40, .done 40] := by
  decide +kernel

/-- **`shutdown_timeout = 0` disables both deadlines.**  A handler waiting for its body is
never cancelled and `runner.cleanup()` never returns; a sleeping one is simply awaited. -/
theorem zero_timeout_never_returns :
    (runConn 0 16 0 [(8, .recv [⟨.postPart, 1, 0⟩])]).obs = [.hs 8] ∧
    returnTime 16 [runConn 0 16 0 [(8, .recv [⟨.postPart, 1, 0⟩])]] = none ∧
    (runConn 0 16 0 [(8, .recv [⟨.get, 801, 0⟩])]).obs =
      [.hs 8, .hr 809, .resp 809, .close 809, .done 809] := by
  decide +kernel

/-- **F20, concretely.**  `POST` with half of its body at tick 8, shutdown at 16 with
`T = 10 s`, the client sends the rest at tick 24: the handler never gets it and is cancelled
at tick 96 (first deadline); no response. -/
theorem f20_body_dropped :
    (runConn 80 16 0 [(8, .recv [⟨.postPart, 1, 0⟩]), (24, .recvBody)]).obs =
      [.hs 8, .hx 96, .close 96, .done 96] := by
  decide +kernel

/-- **A handler that reads its (already buffered) body late, inside the timeout, completes.**
`POST` whose whole body arrived with the head at tick 8, the handler reads it at tick 41,
shutdown at 16 with `T = 10 s`: the body is still readable (`_current_request._cancel` only
happens when the first timeout expires, tick 96), response complete at 41.  Read after tick
96 it would be cancelled (second conjunct). -/
theorem late_reader_within_timeout_completes :
    (runConn 80 16 0 [(8, .recv [⟨.postLate, 33, 0⟩])]).obs =
      [.hs 8, .hr 41, .resp 41, .close 41, .done 41] ∧
    (runConn 80 16 0 [(8, .recv [⟨.postLate, 113, 0⟩])]).obs =
      [.hs 8, .hx 121, .close 121, .done 121] := by
  decide +kernel

/-- **A streamed response that is being written at the shutdown moment is completed.**  The
handler returned at tick 11 (before the shutdown at 16), its body takes until tick 41: the
transport stays open (`close()` only sets `_close`), the complete response arrives at 41. -/
theorem streamed_response_within_timeout_completes :
    (runConn 80 16 0 [(8, .recv [⟨.get, 3, 30⟩])]).obs =
      [.hs 8, .hr 11, .resp 41, .close 41, .done 41] := by
  decide +kernel

/-! ## the hypotheses are satisfiable (non-vacuity) -/

/-- a reachable connection with a running handler (GET at tick 8, handler sleeps 33 ticks):
hypotheses of `inflight_may_finish` and `cancelled_by_2T` -/
example :
    let c := step {} 8 (.recv [⟨.get, 33, 0⟩])
    c.cur = .sleeping 41 ∧ c.transportOpen = true ∧ c.sd = .none ∧ c.forceClose = false ∧ c.cur ≠ .idle := by
  decide +kernel

/-- a reachable connection whose handler waits for its body, marked by `pre_shutdown`:
hypotheses of `inflight_body_never_completes` and `no_new_requests_after_shutdown` -/
example :
    let c := step (step {} 8 (.recv [⟨.postPart, 3, 0⟩])) 16 .preShutdown
    c.closeFlag = true ∧ c.cur = .waitBody 3 := by
  decide +kernel

/-- a fresh connection is idle and open: hypotheses of `idle_closed_at_shutdown` -/
example : ({} : Conn).cur = .idle ∧ ({} : Conn).sd = .none ∧ ({} : Conn).transportOpen = true := by
  decide

/-- a scenario in which cleanup returns: hypothesis of `all_closed_when_cleanup_returns` -/
example : returnTime (16 + 0) ([[(8, .recv [⟨.get, 33, 0⟩])], []].map (runConn 80 16 0)) = some 41 := by
  decide +kernel

end Aio.C20.Drain
