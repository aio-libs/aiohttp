import AioProps.C03Chunked
/-!
# C03: every segmentation

`feed_segments`: feeding the pieces of ANY segmentation of a byte string one `feed_data` call at a
time is observably the same as one call with the whole string, provided the reads before the last
are *clean* (raise nothing, hand nothing back, set no payload exception, leave the parser usable
and — the side condition of `feed_two_reads` — leave no over-long partial chunk line buffered).
-/
namespace Aio.Http
open Aio

theorem feed_anyBody (cfg : Cfg) (urlOk : Bool → Bytes → Bool) (st : St) (d : Bytes) (hst : StG AnyBody st) :
    StG AnyBody (feed cfg urlOk st d).st :=
  ite_elim (fun o : FeedOut => StG AnyBody o.st) (fun _ => hst) fun _ =>
    feedLoop_rule cfg urlOk (fun st _ => StG AnyBody st) (fun o => StG AnyBody o.st) (fun _ _ h => h)
      (fun st d _ o h hs => show StG AnyBody (Step.stop o).st from hs ▸ stepOnce_anyBody cfg urlOk st d h)
      (fun st d _ st' d' ev h hs =>
        have : StG AnyBody (Step.cont st' d' ev).st := hs ▸ stepOnce_anyBody cfg urlOk st d h
        ⟨this, this⟩)
      _ _ _ [] (Nat.lt_succ_self _) hst

theorem stepOnce_failed (cfg : Cfg) (urlOk : Bool → Bytes → Bool) (st : St) (d : Bytes)
    (he : (stepOnce cfg urlOk st d).err = none) : (stepOnce cfg urlOk st d).st.failed = st.failed := by
  have hs := stepOnce_spec cfg urlOk st d
  generalize stepOnce cfg urlOk st d = s at hs he
  cases hs with
  | needs | upgraded | blank | line => rfl
  | complete | swallowed => exact (afterBody_frame st).2.2.2.1
  | raised | refused | badLine | badHead => cases he
  | partLine =>
    rcases partialLine_cases cfg st d [] with ⟨e, hpl⟩ | ⟨hpl, _⟩ <;> rw [hpl] at he ⊢
    · cases he
    · rfl
  | head _ _ _ _ _ ho => obtain ⟨_, _, _, _, _, _, _, _, rfl, _⟩ := onHeaderBlock_ok ho; rfl

theorem feed_failed (cfg : Cfg) (urlOk : Bool → Bytes → Bool) (st : St) (d : Bytes)
    (he : (feed cfg urlOk st d).err = none) : (feed cfg urlOk st d).st.failed = st.failed := by
  unfold feed at he ⊢
  by_cases hf : st.failed = true
  · rw [if_pos hf]
  · rw [if_neg hf] at he ⊢
    exact feedLoop_rule cfg urlOk (fun s _ => s.failed = st.failed) (fun o => o.err = none → o.st.failed = st.failed)
      (fun _ _ h _ => h)
      (fun s d _ o h hs he =>
        have : (Step.stop o).st.failed = s.failed := hs ▸ stepOnce_failed cfg urlOk s d (by rw [hs]; exact he)
        this.trans h)
      (fun s d _ st' d' ev h hs =>
        have : (Step.cont st' d' ev).st.failed = s.failed := hs ▸ stepOnce_failed cfg urlOk s d (by rw [hs]; rfl)
        ⟨this.trans h, nofun⟩)
      _ _ _ [] (Nat.lt_succ_self _) rfl he

/-- a read after which the next one may be issued: nothing raised, nothing handed back (no
protocol switch), no payload exception, no over-long partial chunk line buffered -/
def Clean (cfg : Cfg) (o : FeedOut) : Prop :=
  o.err = none ∧ o.rest = [] ∧ (∀ e, Ev.payloadErr e ∉ o.evs) ∧
    (∀ p', o.st.payload = some p' → TailOk cfg p')

/-- one `feed_data` call per segment; events concatenated, outcome of the last call -/
def runSegs (cfg : Cfg) (urlOk : Bool → Bytes → Bool) : St → List Bytes → FeedOut
  | st, [] => { st, evs := [], rest := [], err := none }
  | st, [d] => feed cfg urlOk st d
  | st, d :: d2 :: ds =>
    let o := feed cfg urlOk st d
    let o' := runSegs cfg urlOk o.st (d2 :: ds)
    { o' with evs := o.evs ++ o'.evs }

/-- every read but the last is clean -/
def CleanRun (cfg : Cfg) (urlOk : Bool → Bytes → Bool) : St → List Bytes → Prop
  | _, [] => True
  | _, [_] => True
  | st, d :: d2 :: ds => Clean cfg (feed cfg urlOk st d) ∧ CleanRun cfg urlOk (feed cfg urlOk st d).st (d2 :: ds)

/-- **Every segmentation.** From any usable parser state whose body parser (if active) is in a
state the parser can have produced, and for every way of cutting a byte string into reads:
one `feed_data` call per piece ends in the same parser state (or both failed), raises the same
error, hands back the same bytes and delivers the same events (up to the grouping of body
bytes) as a single call with the whole string — provided every read before the last is `Clean`. -/
theorem feed_segments (cfg : Cfg) (urlOk : Bool → Bytes → Bool) :
    ∀ (segs : List Bytes) (st : St), segs ≠ [] → StG AnyBody st → st.failed = false →
      CleanRun cfg urlOk st segs →
      Equiv (feed cfg urlOk st segs.flatten) (runSegs cfg urlOk st segs) := by
  intro segs st
  fun_induction runSegs cfg urlOk st segs
  case case1 => exact fun h => absurd rfl h
  case case2 st d => simp only [List.flatten_cons, List.flatten_nil, List.append_nil]; exact fun _ _ _ _ => Equiv.refl _
  case case3 st d d2 ds o o' ih =>
    intro _ hst hf ⟨⟨he, hr, hpe, hadm⟩, hrest⟩
    have hf1 : o.st.failed = false := (feed_failed cfg urlOk st d he).trans hf
    obtain ⟨k1, k2, k3, k4⟩ := feed_two_reads cfg urlOk st d (d2 :: ds).flatten hst hf he hr hpe hf1 hadm
    obtain ⟨i1, i2, i3, i4⟩ := ih (List.cons_ne_nil _ _) (feed_anyBody cfg urlOk st d hst) hf1 hrest
    rw [List.flatten_cons]
    refine ⟨?_, ?_, k3.trans i3, k4.trans i4⟩
    · rcases k1 with k1 | k1
      · rw [k1]; exact i1
      · exact .inr ⟨k1.1, i1.elim (fun e => e ▸ k1.2) (·.2)⟩
    · rw [k2, proj_append, proj_append, i2]

def Ev.isPerr : Ev → Bool
  | .payloadErr _ => true
  | _ => false

/-- executable form of `Clean` -/
def cleanB (cfg : Cfg) (o : FeedOut) : Bool :=
  o.err.isNone && o.rest.isEmpty && o.evs.all (fun e => !e.isPerr) &&
    (match o.st.payload with
     | some p => !(decide (p.type = .chunked)) || !chunkTailTooLong cfg p
     | none => true)

theorem clean_of_cleanB (cfg : Cfg) (o : FeedOut) (h : cleanB cfg o = true) : Clean cfg o := by
  unfold cleanB at h
  simp only [Bool.and_eq_true] at h
  obtain ⟨⟨⟨h1, h2⟩, h3⟩, h4⟩ := h
  refine ⟨by simpa using h1, by simpa using h2, ?_, ?_⟩
  · intro e he
    have := (List.all_eq_true.mp h3) _ he
    simp [Ev.isPerr] at this
  · intro p' hp' hc
    rw [hp'] at h4
    simp only [hc, decide_true, Bool.not_true, Bool.false_or, Bool.not_eq_true'] at h4
    exact h4

/-- `POST / HTTP/1.1`, `Host: a`, `Transfer-Encoding: chunked`, body `3 CRLF abc CRLF 0 CRLF CRLF`
read in four pieces — cut inside the request line, inside the chunk data and inside the last
chunk: every read before the last is clean, so `feed_segments` applies. -/
example :
    let segs : List Bytes := [[80, 79, 83, 84, 32, 47, 32, 72, 84],
      [84, 80, 47, 49, 46, 49, 13, 10, 72, 111, 115, 116, 58, 32, 97, 13, 10,
       84, 114, 97, 110, 115, 102, 101, 114, 45, 69, 110, 99, 111, 100, 105, 110, 103, 58, 32, 99, 104, 117, 110, 107, 101, 100, 13, 10,
       13, 10, 51, 13, 10, 97],
      [98, 99, 13, 10, 48, 13],
      [10, 13, 10]]
    CleanRun {} (fun _ _ => true) {} segs ∧ (runSegs {} (fun _ _ => true) {} segs).err = none := by
  intro segs
  refine ⟨⟨clean_of_cleanB _ _ (by decide +kernel), clean_of_cleanB _ _ (by decide +kernel),
    clean_of_cleanB _ _ (by decide +kernel), trivial⟩, by decide +kernel⟩

end Aio.Http
