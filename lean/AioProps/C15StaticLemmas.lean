import AioModel.C15Static
/-!
# C15 — lemmas about the abstract file system walk (`posixpath.realpath`), and about what
`StaticResource._handle` and `FileResponse` do with the path it returns
-/
namespace Aio.C15
open Aio

def isLink : Node → Bool
  | .link _ => true
  | _ => false

/-- no component of `p` is a symbolic link: `p` names its own real location -/
def Resolved (fs : Fs) (p : Path) : Prop :=
  ∀ i, i < p.length → isLink (fs.lstat (p.take (i + 1))) = false

def normalName (n : Str) : Bool := n != [] && n != DOT && n != DOTDOT && !hasNul n

/-- every name is a real directory entry name: not empty, `.`, `..`, no NUL -/
def NormalPath (p : Path) : Prop := ∀ n ∈ p, normalName n = true

variable {fs : Fs} {fuel : Nat}

theorem Resolved_nil : Resolved fs [] := fun _ h => absurd h (Nat.not_lt_zero _)

theorem Resolved_dropLast {p : Path} (h : Resolved fs p) : Resolved fs p.dropLast := by
  intro i hi
  rw [List.length_dropLast] at hi
  rw [List.dropLast_eq_take, List.take_take, Nat.min_eq_left (by omega)]
  exact h i (by omega)

theorem Resolved_snoc {p : Path} {n : Str} (h : Resolved fs p)
    (hn : isLink (fs.lstat (p ++ [n])) = false) : Resolved fs (p ++ [n]) := by
  intro i hi
  by_cases hlt : i < p.length
  · rw [List.take_append_of_le_length (by omega)]
    exact h i hlt
  · rw [List.take_of_length_le (by simp; omega)]
    exact hn

theorem walk_resolved_aux {act : List Path} {cur : Path} {rest : List Item} {q : Path}
    (hw : walk fs fuel act cur rest = .ok q) (hc : Resolved fs cur ∧ NormalPath cur) :
    Resolved fs q ∧ NormalPath q := by
  fun_induction walk fs fuel act cur rest
  case case1 => cases hw; exact hc
  case case2 ih | case3 ih => exact ih hw hc
  case case4 ih => -- `..`
    exact ih hw ⟨Resolved_dropLast hc.1, fun n hn => hc.2 n (List.dropLast_subset _ hn)⟩
  case case5 | case6 | case7 => cases hw
  case case8 act cur n rest h1 h2 h3 target hx _ fuel ih => -- a link: on from `/` or from `cur`
    by_cases hs : target.head? = some SLASH
    · simp only [hs, if_true, dite_true] at ih hw
      exact ih hw ⟨Resolved_nil, fun _ h => nomatch h⟩
    · simp only [hs, if_false, dite_false] at ih hw
      exact ih hw hc
  case case9 fuel act cur n rest h1 h2 h3 hx ih => -- any other entry is appended
    refine ih hw ⟨Resolved_snoc hc.1 ?_, ?_⟩
    · cases hl : fs.lstat (cur ++ [n]) <;> simp [isLink]
      exact hx _ hl
    · intro m hm
      simp at hm
      rcases hm with hm | rfl
      · exact hc.2 m hm
      · simp only [not_or] at h1
        simp [normalName, h1.1, h1.2, h2, h3]

/-- **`realpath` yields real locations.**  Whatever the kernel-style walk returns contains no
symbolic link and no `.`/`..`/empty name — for every file system, start path and fuel. -/
theorem walk_resolved (fs : Fs) (fuel : Nat) (p q : Path) (h : follow fs fuel p = .ok q) :
    Resolved fs q ∧ NormalPath q :=
  walk_resolved_aux h ⟨Resolved_nil, fun _ h => nomatch h⟩

theorem walk_of_resolved (act : List Path) (rest : List Str) (cur : Path)
    (hres : Resolved fs (cur ++ rest)) (hnorm : NormalPath rest) :
    walk fs fuel act cur (rest.map .name) = .ok (cur ++ rest) := by
  induction rest generalizing cur with
  | nil => simp [walk]
  | cons n t ih =>
    have hn := hnorm n (by simp)
    simp [normalName] at hn
    have hl : isLink (fs.lstat (cur ++ [n])) = false := by
      simpa [List.take_length_add_append] using hres cur.length (by simp)
    rw [List.map_cons, walk]
    simp only [hn, false_or, if_false, Bool.false_eq_true]
    split
    · next hx => rw [hx] at hl; simp [isLink] at hl
    · rw [ih _ (by simpa using hres) fun m hm => hnorm m (List.mem_cons_of_mem _ hm), List.append_assoc]
      rfl

/-- **A real location is its own real location**: following links from a resolved path goes
nowhere, so `stat` there is `lstat` there. -/
theorem stat_of_resolved (fs : Fs) (fuel : Nat) (p : Path) (h : Resolved fs p) (hn : NormalPath p) :
    follow fs fuel p = .ok p := by
  simpa [follow] using walk_of_resolved [] p [] (by simpa using h) hn

theorem realpath_ok {p q : Path} (h : realpath fs fuel p = .ok q) :
    follow fs fuel p = .ok q ∨
    ∃ pp r, follow fs fuel p = .loop pp ∧ q = lexNorm pp ∧ follow fs fuel q = .ok r := by
  revert h
  fun_cases realpath fs fuel p <;> intro h
  case case1 hq => cases h; exact .inl hq
  case case4 pp hpp r hr => cases h; exact .inr ⟨pp, r, hpp, rfl, hr⟩
  all_goals cases h

theorem isFixpoint_follow {p : Path} (h : isFixpoint fs fuel p = true) :
    follow fs fuel p = .ok p := by
  unfold isFixpoint at h
  split at h
  · next p2 hp2 =>
    have : p2 = p := by simpa using h
    subst this
    -- a path that resolves to itself was not cut short by a loop
    rcases realpath_ok hp2 with hf | ⟨pp, r, hl, _, hr⟩
    · exact hf
    · rw [hl] at hr; cases hr
  · cases h

theorem sibling_some {p : Path} {ae : Str} {exts : List (Str × Str)} {q : Path} {id : Nat} {coding : Str}
    (h : sibling fs fuel p ae exts = some (q, id, coding)) :
    ∃ ext d, (ext, coding) ∈ exts ∧ follow fs fuel p.dropLast = .ok d ∧
      osLstat fs fuel (withExt p ext) = .file id ∧ q = withExt (d ++ [p.getLast?.getD []]) ext := by
  fun_induction sibling fs fuel p ae exts
  case case1 => cases h
  case case2 ext c t _ id' d hf hl =>
    cases h; exact ⟨ext, d, List.mem_cons_self .., hf, hl, rfl⟩
  case case3 ih | case4 ih =>
    obtain ⟨e, d, hm, hr⟩ := ih h
    exact ⟨e, d, List.mem_cons_of_mem _ hm, hr⟩

theorem fileTarget_file {p' : Path} {ae : Str} {p : Path} {id : Nat} {enc : Option Str}
    (h : fileTarget fs fuel p' ae = .file p id enc) :
    (∃ coding, enc = some coding ∧
        sibling fs fuel p' ae Gen.C15.encodingExtensions = some (p, id, coding)) ∨
    (follow fs fuel p' = .ok p ∧ fs.lstat p = .file id ∧ enc = none) := by
  revert h
  fun_cases fileTarget fs fuel p' ae <;> intro h
  case case1 coding hs => cases h; exact .inl ⟨coding, rfl, hs⟩
  case case2 hq _ hl => cases h; exact .inr ⟨hq, hl, rfl⟩
  all_goals cases h

theorem fileTarget_confined {root p' : Path} {ae : Str} {p : Path} {id : Nat}
    {enc : Option Str} (hroot : fs.lstat root = .dir) (hpre : root <+: p')
    (hres : Resolved fs p') (hnorm : NormalPath p') (hnd : statF fs fuel p' ≠ .dir)
    (h : fileTarget fs fuel p' ae = .file p id enc) :
    root <+: p ∧ Resolved fs p ∧ fs.lstat p = .file id := by
  rcases fileTarget_file h with ⟨_, _, hs⟩ | ⟨hf, hl, _⟩
  · obtain ⟨ext, d, _, hd, hl, rfl⟩ := sibling_some hs
    -- a sibling: `p'` is not the root (a directory), so its directory part lies under the root too
    have hne : p' ≠ root := by
      rintro rfl
      exact hnd (by simp [statF, stat_of_resolved fs fuel _ hres hnorm, hroot])
    obtain ⟨init, last, rfl⟩ : ∃ init last, p' = init ++ [last] := by
      rcases List.eq_nil_or_concat p' with rfl | ⟨i, l, rfl⟩
      · exact absurd (List.prefix_nil.mp hpre).symm hne
      · exact ⟨i, l, List.concat_eq_append⟩
    have hpi : root <+: init := (List.prefix_concat_iff.mp hpre).resolve_left (Ne.symm hne)
    have hri : Resolved fs init := by simpa using Resolved_dropLast hres
    have hfi := stat_of_resolved fs fuel init hri fun m hm => hnorm m (by simp [hm])
    rw [List.dropLast_concat, hfi] at hd
    cases hd
    simp [withExt, osLstat, hfi] at hl ⊢
    have hlst : fs.lstat (d ++ [last ++ ext]) = .file id := by
      split at hl
      · cases hl
      · exact hl
    exact ⟨hpi.trans (List.prefix_append _ _), Resolved_snoc hri (by rw [hlst]; rfl), hlst⟩
  · rw [stat_of_resolved fs fuel p' hres hnorm] at hf
    cases hf
    exact ⟨hpre, hres, hl⟩

variable {fix : Bool} {cfg : Cfg} {filename ae : Str}

/-- `_handle` goes on with `p`: the joined path, resolved and found under the root (the model's
local `checked`) -/
def Checked (fix : Bool) (fs : Fs) (fuel : Nat) (cfg : Cfg) (filename : Str) (p : Path) : Prop :=
  (if cfg.follow then
    if cfg.root.isPrefixOf (lexNorm (cfg.root ++ pathSegs filename)) then
      match realpath fs fuel (lexNorm (cfg.root ++ pathSegs filename)) with
      | .ok p => some p
      | .error _ => none
    else none
  else
    match realpath fs fuel (cfg.root ++ pathSegs filename) with
    | .ok p => if fix && !isFixpoint fs fuel p then none else if cfg.root.isPrefixOf p then some p else none
    | .error _ => none) = some p

theorem Checked.follow_true {p : Path} (h : Checked fix fs fuel cfg filename p) (hf : cfg.follow = true) :
    cfg.root.isPrefixOf (lexNorm (cfg.root ++ pathSegs filename)) = true ∧
      realpath fs fuel (lexNorm (cfg.root ++ pathSegs filename)) = .ok p := by
  rw [Checked, if_pos hf] at h
  split at h
  · next hpre =>
    split at h
    · next q hq => cases h; exact ⟨hpre, hq⟩
    · cases h
  · cases h

theorem Checked.follow_false {p : Path} (h : Checked fix fs fuel cfg filename p) (hf : cfg.follow = false) :
    realpath fs fuel (cfg.root ++ pathSegs filename) = .ok p ∧ cfg.root.isPrefixOf p = true ∧
      (fix = true → isFixpoint fs fuel p = true) := by
  rw [Checked, if_neg (by simp [hf])] at h
  split at h
  · next q hq =>
    split at h
    · cases h
    · next hfx =>
      split at h
      · next hpre => cases h; exact ⟨hq, hpre, fun hfix => by simpa [hfix] using hfx⟩
      · cases h
  · cases h

theorem resolvePathG_spec (fix : Bool) (fs : Fs) (fuel : Nat) (cfg : Cfg) (filename : Str) :
    match resolvePathG fix fs fuel cfg filename with
    | .inr p => Checked fix fs fuel cfg filename p ∧ statF fs fuel p ≠ .dir
    | .inl (.listing p) => Checked fix fs fuel cfg filename p ∧ statF fs fuel p = .dir ∧
        cfg.showIndex = true ∧ cfg.root.isPrefixOf p = true
    | .inl (.file ..) => False
    | .inl _ => True := by
  fun_cases resolvePathG fix fs fuel cfg filename
  case case3 p hc hd hs hpre => exact ⟨hc, hd, hs, hpre⟩ -- a listing
  case case6 p hc hd => exact ⟨hc, hd⟩ -- handed to `FileResponse`
  all_goals trivial

theorem serveG_file {p : Path} {id : Nat} {enc : Option Str} (h : serveG fix fs fuel cfg filename ae = .file p id enc) :
    ∃ p', Checked fix fs fuel cfg filename p' ∧ statF fs fuel p' ≠ .dir ∧
      fileTarget fs fuel p' (asciiLower ae) = .file p id enc := by
  have hr := resolvePathG_spec fix fs fuel cfg filename
  unfold serveG at h
  split at h
  · next ho => subst h; rw [ho] at hr; exact hr.elim
  · next p' hp => rw [hp] at hr; exact ⟨p', hr.1, hr.2, h⟩

theorem serveG_listing {p : Path}
    (h : serveG fix fs fuel cfg filename ae = .listing p) :
    Checked fix fs fuel cfg filename p ∧ statF fs fuel p = .dir ∧ cfg.showIndex = true ∧
      cfg.root.isPrefixOf p = true := by
  have hr := resolvePathG_spec fix fs fuel cfg filename
  unfold serveG at h
  split at h
  · next ho => subst h; rw [ho] at hr; exact hr
  · next p' _ =>
    revert h
    fun_cases fileTarget fs fuel p' (asciiLower ae) <;> nofun

/-- `hreal`: whatever passes `_handle`'s checks is the whole answer of `follow`, not a path that a symlink loop cut short -/
theorem serveG_confined {p : Path} {id : Nat} {enc : Option Str}
    (hfollow : cfg.follow = false) (hroot : fs.lstat cfg.root = .dir)
    (hreal : ∀ p', Checked fix fs fuel cfg filename p' → ∃ x, follow fs fuel x = .ok p')
    (h : serveG fix fs fuel cfg filename ae = .file p id enc) :
    cfg.root <+: p ∧ Resolved fs p ∧ fs.lstat p = .file id := by
  obtain ⟨p', hc, hnd, ht⟩ := serveG_file h
  obtain ⟨x, hx⟩ := hreal p' hc
  obtain ⟨hres, hnorm⟩ := walk_resolved fs fuel x p' hx
  exact fileTarget_confined hroot
    (List.isPrefixOf_iff_prefix.mp (hc.follow_false hfollow).2.1) hres hnorm hnd ht

end Aio.C15
