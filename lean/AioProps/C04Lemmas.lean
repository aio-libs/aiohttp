import AioModel.C04
import AioProps.Utf8Lemmas
import AioProps.HexLemmas
/-! What the header serialiser, the reference chunked decoder and one step of the `StreamWriter`
model do on the inputs the C04 theorems quantify over. -/
namespace Aio.C04
open Aio

def frameOf (d : Bytes) : Bytes := if d.isEmpty then [] else chunkFrame d

/-- what a sequence of `write(d)` calls puts on the wire in chunked mode -/
def encodeChunks (ds : List Bytes) : Bytes := (ds.map frameOf).flatten

/-- bytes on the wire once the buffered header block (if any) is flushed -/
def flushed (w : W) : Bytes := w.out ++ (pendingHeaders w).getD []

/-- what `write_eof(d)` puts into its single chunk: the compressor's output for `d` (nothing
when `d` is empty) followed by the flush output -/
def eofBody (d cz fl : Bytes) : Bytes := (if d.isEmpty then [] else cz) ++ fl

/-- a writer that has been given its headers, in chunked mode, no compression, no declared length -/
structure ChunkedReady (w : W) : Prop where
  chunked : w.chunked = true
  nocomp : w.compress = false
  nolen : w.length = none
  isopen : w.closing = false
  noeof : w.eof = false
  hdr : (w.headersBuf = none ∧ w.headersWritten = true) ∨
        (∃ hb, w.headersBuf = some hb ∧ hb ≠ [] ∧ w.headersWritten = false)

/-- `ChunkedReady` with the compression flag left open (`z`) -/
structure Chunking (z : Bool) (w : W) : Prop where
  chunked : w.chunked = true
  comp : w.compress = z
  nolen : w.length = none
  isopen : w.closing = false
  noeof : w.eof = false
  hdr : (w.headersBuf = none ∧ w.headersWritten = true) ∨
        (∃ hb, w.headersBuf = some hb ∧ hb ≠ [] ∧ w.headersWritten = false)

structure LengthReady (w : W) (n : Nat) : Prop where
  notchunked : w.chunked = false
  nocomp : w.compress = false
  len : w.length = some n
  isopen : w.closing = false
  hdr : (w.headersBuf = none ∧ w.headersWritten = true) ∨
        (∃ hb, w.headersBuf = some hb ∧ hb ≠ [] ∧ w.headersWritten = false)

theorem forbidden_ctl (c : Nat) (h : c < 32 ∧ c ≠ 9 ∨ c = 127) : forbidden c = true :=
  (by decide : ∀ c : Fin 128, (c.val < 32 ∧ c.val ≠ 9 ∨ c.val = 127) → forbidden c.val = true) ⟨c, by omega⟩ h

theorem safe_no_cr_lf (s : Str) (h : safeHeader s = true) : 13 ∉ s ∧ 10 ∉ s := by
  have hs : ∀ c ∈ s, forbidden c = false := by simpa [safeHeader] using h
  constructor <;> intro hm
  · simpa [forbidden_ctl 13 (by omega)] using hs 13 hm
  · simpa [forbidden_ctl 10 (by omega)] using hs 10 hm

theorem serialize_eq_ok (st : Str) (hs : List (Str × Str)) (bs : Bytes) :
    serialize st hs = .ok bs ↔
      safeHeader st = true ∧ (∀ kv ∈ hs, safeHeader kv.1 = true ∧ safeHeader kv.2 = true) ∧
        utf8 (serializeStr st hs) = some bs := by
  have hany : (hs.any fun kv => !safeHeader kv.1 || !safeHeader kv.2) = false ↔
      ∀ kv ∈ hs, safeHeader kv.1 = true ∧ safeHeader kv.2 = true := by simp
  unfold serialize
  rw [← hany]
  cases safeHeader st
  · simp
  cases hs.any _
  · cases utf8 (serializeStr st hs) <;> simp
  · simp

theorem splitCRLF_no_cr (a rest cur : Bytes) (h : (13 : UInt8) ∉ a) :
    splitCRLF (a ++ 13 :: 10 :: rest) cur = (cur.reverse ++ a) :: splitCRLF rest [] := by
  induction a generalizing cur with
  | nil => simp [splitCRLF]
  | cons b t ih =>
    simp only [List.mem_cons, not_or] at h
    cases hh : t ++ 13 :: 10 :: rest with
    | nil => simp at hh
    | cons x xs =>
      simp only [List.cons_append, hh, splitCRLF]
      rw [← hh, if_neg (fun e => h.1 e.1.symm), ih _ h.2]
      simp

theorem joinCRLF_crlf (ls : List Str) (hne : ls ≠ []) :
    joinCRLF ls ++ [13, 10] = (ls.map (· ++ [13, 10])).flatten := by
  induction ls with
  | nil => exact absurd rfl hne
  | cons l rest ih =>
    cases rest with
    | nil => simp [joinCRLF]
    | cons l' rest' => simp [joinCRLF, ih (List.cons_ne_nil _ _)]

theorem split_lines (ls : List Str) (bs : Bytes) (hsafe : ∀ l ∈ ls, 13 ∉ l ∧ 10 ∉ l)
    (h : utf8 ((ls.map (· ++ [13, 10])).flatten ++ [13, 10]) = some bs) :
    ∃ lb, ls.map utf8 = lb.map some ∧ splitCRLF bs [] = lb ++ [[], []] ∧
      ∀ l ∈ lb, (13 : UInt8) ∉ l ∧ (10 : UInt8) ∉ l := by
  induction ls generalizing bs with
  | nil =>
    cases utf8_crlf.symm.trans h
    exact ⟨[], rfl, rfl, nofun⟩
  | cons l rest ih =>
    simp only [List.map_cons, List.flatten_cons, List.append_assoc] at h
    obtain ⟨x, y, hx, hy, rfl⟩ := utf8_append_some _ _ _ h
    obtain ⟨c, z, hc, hz, rfl⟩ := utf8_append_some _ _ _ hy
    rw [utf8_crlf] at hc
    cases hc
    obtain ⟨lb, hf, hs, hl⟩ := ih z (fun l hl => hsafe l (List.mem_cons_of_mem _ hl)) hz
    have ⟨h13, h10⟩ := hsafe l (List.mem_cons_self ..)
    have hx13 := utf8_not_mem l x hx 13 (by decide) h13
    have hx10 := utf8_not_mem l x hx 10 (by decide) h10
    refine ⟨x :: lb, by simp [hx, hf], ?_, List.forall_mem_cons.mpr ⟨⟨hx13, hx10⟩, hl⟩⟩
    show splitCRLF (x ++ 13 :: 10 :: z) [] = _
    rw [splitCRLF_no_cr x z [] hx13, hs]
    rfl

theorem cutCRLF_no_cr (a rest : Bytes) (h : (13 : UInt8) ∉ a) :
    cutCRLF (a ++ 13 :: 10 :: rest) = some (a, rest) := by
  induction a with
  | nil => simp [cutCRLF]
  | cons b t ih =>
    simp only [List.mem_cons, not_or] at h
    cases hh : t ++ 13 :: 10 :: rest with
    | nil => simp at hh
    | cons x xs =>
      simp only [List.cons_append, hh, cutCRLF]
      rw [← hh, ih h.2]
      simp [Ne.symm h.1]

theorem chunkFrame_append (d Y : Bytes) :
    chunkFrame d ++ Y = toHex d.length ++ 13 :: 10 :: (d ++ 13 :: 10 :: Y) := by
  simp [chunkFrame, CRLF]

theorem decode_frame (fuel : Nat) (d r : Bytes) (hd : d ≠ []) :
    decodeChunked (fuel + 1) (chunkFrame d ++ r) =
      match decodeChunked fuel r with
      | some (x, r') => some (d ++ x, r')
      | none => none := by
  obtain ⟨k, hk⟩ : ∃ k, d.length = k + 1 := ⟨d.length - 1, by have := List.length_pos_iff.mpr hd; omega⟩
  rw [chunkFrame_append, decodeChunked, cutCRLF_no_cr _ _ (toHex_no_cr _)]
  simp only [ofHex_toHex, hk]
  have h1 : ¬ (d ++ 13 :: 10 :: r).length < k + 1 + 2 := by simp; omega
  simp only [h1, if_false]
  simp only [← hk, List.take_left', List.drop_left']
  rcases decodeChunked fuel r with _ | ⟨x, r'⟩ <;> rfl

theorem decode_last (fuel : Nat) (rest : Bytes) :
    decodeChunked (fuel + 1) (lastChunk ++ rest) = some ([], rest) := by
  unfold lastChunk
  show decodeChunked (fuel + 1) ([48] ++ 13 :: 10 :: (13 :: 10 :: rest)) = _
  rw [decodeChunked, cutCRLF_no_cr _ _ (by decide)]
  have : ofHex [48] = some 0 := by decide
  simp [this]

theorem encodeChunks_nil_cons (ds : List Bytes) : encodeChunks ([] :: ds) = encodeChunks ds := by
  simp [encodeChunks, frameOf]

theorem encodeChunks_cons (d : Bytes) (ds : List Bytes) (hd : d ≠ []) :
    encodeChunks (d :: ds) = chunkFrame d ++ encodeChunks ds := by
  simp [encodeChunks, frameOf, hd]

theorem chunkFrame_pos (d : Bytes) : 1 ≤ (chunkFrame d).length := by
  simp [chunkFrame, CRLF]; omega

/-- fuel: one unit per frame and one for the last-chunk; every frame has at least one byte -/
theorem decode_encodeChunks_fuel (ds : List Bytes) (rest : Bytes) (fuel : Nat)
    (hf : (encodeChunks ds).length < fuel) :
    decodeChunked fuel (encodeChunks ds ++ lastChunk ++ rest) = some (ds.flatten, rest) := by
  induction ds generalizing fuel with
  | nil =>
    cases fuel with
    | zero => omega
    | succ f => simpa [encodeChunks] using decode_last f rest
  | cons d ds ih =>
    by_cases hd : d = []
    · subst hd
      rw [encodeChunks_nil_cons] at hf ⊢
      simpa using ih fuel hf
    · rw [encodeChunks_cons d ds hd] at hf ⊢
      have := chunkFrame_pos d
      cases fuel with
      | zero => omega
      | succ f =>
        rw [List.append_assoc, List.append_assoc, decode_frame f d _ hd, ← List.append_assoc,
          ih f (by simp at hf; omega)]
        simp

theorem ChunkedReady.chunking {w : W} : ChunkedReady w → Chunking false w
  | ⟨a, b, c, d, e, f⟩ => ⟨a, b, c, d, e, f⟩

theorem Chunking.sent (z : Bool) (out : Bytes) :
    Chunking z { chunked := true, compress := z, headersWritten := true, out } :=
  ⟨rfl, rfl, rfl, rfl, rfl, Or.inl ⟨rfl, rfl⟩⟩

/-- Both forms are literal records, so that `step` on them reduces by `simp` alone. -/
@[elab_as_elim] theorem Chunking.elim {z : Bool} {M : W → Prop}
    (sent : ∀ out, M { chunked := true, compress := z, headersWritten := true, out })
    (buffered : ∀ out hb, hb ≠ [] →
      M { chunked := true, compress := z, headersBuf := some hb, out })
    (w : W) (hw : Chunking z w) : M w := by
  obtain ⟨length, chunked, eof, hbuf, hwr, compress, closing, out⟩ := w
  obtain ⟨rfl, rfl, rfl, rfl, rfl, ⟨rfl, rfl⟩ | ⟨hb, rfl, hne, rfl⟩⟩ := hw
  · exact sent out
  · exact buffered out hb hne

theorem step_write_chunking (z : Bool) (w : W) (hw : Chunking z w) (d cz : Bytes) :
    (step w (.write d cz)).2 = none ∧ Chunking z (step w (.write d cz)).1 ∧
    flushed (step w (.write d cz)).1 = flushed w ++ frameOf (if z then cz else d) := by
  refine Chunking.elim (fun out => ?_) (fun out hb hne => ?_) w hw <;> simp only [step, doWrite] <;>
    generalize (if z = true then cz else d) = y <;> by_cases hy : y = []
  · subst hy
    cases z <;> simp [pendingHeaders, flushed, frameOf] <;>
      exact .sent ..
  · simp [pendingHeaders, flushed, frameOf, emit, hy]
    exact .sent ..
  · subst hy
    cases z <;> simp [pendingHeaders, flushed, frameOf, sendHeadersWithPayload, emit, hne]
    · exact .sent ..
    · exact ⟨rfl, rfl, rfl, rfl, rfl, Or.inr ⟨hb, rfl, hne, rfl⟩⟩
  · simp [pendingHeaders, flushed, frameOf, sendHeadersWithPayload, emit, hne, hy]
    exact .sent ..

theorem step_send_chunking (z : Bool) (w : W) (hw : Chunking z w) :
    (step w .sendHeaders).2 = none ∧ Chunking z (step w .sendHeaders).1 ∧
    flushed (step w .sendHeaders).1 = flushed w := by
  refine Chunking.elim (fun out => ?_) (fun out hb hne => ?_) w hw
  · simp [step, pendingHeaders, flushed]
    exact .sent ..
  · simp [step, pendingHeaders, flushed, emit, hne]
    exact .sent ..

/-- `hne`: the compressed `write_eof` asserts that there is something to send -/
theorem step_writeEof_chunking (z : Bool) (w : W) (hw : Chunking z w) (d cz fl : Bytes)
    (hne : z = true → eofBody d cz fl ≠ []) :
    (step w (.writeEof d cz fl)).2 = none ∧ (step w (.writeEof d cz fl)).1.eof = true ∧
    (step w (.writeEof d cz fl)).1.out =
      flushed w ++ frameOf (if z then eofBody d cz fl else d) ++ lastChunk := by
  cases z
  · refine Chunking.elim (fun out => ?_) (fun out hb hb0 => ?_) w hw
    · cases hd : d.isEmpty <;> simp [step, doWriteEof, pendingHeaders, flushed, frameOf, emit, hd, chunkFrame]
    · cases hd : d.isEmpty <;>
        simp [step, doWriteEof, pendingHeaders, flushed, frameOf, sendHeadersWithPayload, emit, hb0, hd, chunkFrame]
  · have hye : (eofBody d cz fl).isEmpty = false := by simpa using hne rfl
    have hbody : (if d.isEmpty then [] else cz) ++ fl = eofBody d cz fl := rfl
    refine Chunking.elim (fun out => ?_) (fun out hb hb0 => ?_) w hw <;>
      simp only [step, doWriteEof, Bool.false_eq_true, if_false, if_true, hbody, hye]
    · simp [pendingHeaders, flushed, frameOf, emit, hye, chunkFrame]
    · simp [pendingHeaders, flushed, frameOf, emit, hb0, hye, chunkFrame]

theorem step_setEof_chunking (z : Bool) (w : W) (hw : Chunking z w) :
    (step w .setEof).2 = none ∧ (step w .setEof).1.eof = true ∧
    (step w .setEof).1.out = flushed w ++ lastChunk := by
  refine Chunking.elim (fun out => ?_) (fun out hb hne => ?_) w hw
  · simp [step, doSetEof, pendingHeaders, flushed, emit]
  · simp [step, doSetEof, pendingHeaders, flushed, emit, hne]

theorem LengthReady.sent (n : Nat) (eof : Bool) (out : Bytes) :
    LengthReady { length := some n, eof, headersWritten := true, out } n :=
  ⟨rfl, rfl, rfl, rfl, Or.inl ⟨rfl, rfl⟩⟩

@[elab_as_elim] theorem LengthReady.elim {n : Nat} {M : W → Prop}
    (sent : ∀ eof out, M { length := some n, eof, headersWritten := true, out })
    (buffered : ∀ eof out hb, hb ≠ [] →
      M { length := some n, eof, headersBuf := some hb, out })
    (w : W) (hw : LengthReady w n) : M w := by
  obtain ⟨length, chunked, eof, hbuf, hwr, compress, closing, out⟩ := w
  obtain ⟨rfl, rfl, rfl, rfl, ⟨rfl, rfl⟩ | ⟨hb, rfl, hne, rfl⟩⟩ := hw
  · exact sent eof out
  · exact buffered eof out hb hne

theorem step_write_length (w : W) (n : Nat) (hw : LengthReady w n) (d cz : Bytes) :
    (step w (.write d cz)).2 = none ∧ LengthReady (step w (.write d cz)).1 (n - d.length) ∧
    flushed (step w (.write d cz)).1 = flushed w ++ d.take n := by
  -- when the allowance is exceeded the write is cut to `d.take n`, and dropped if that is empty
  have cut : ¬ d.length ≤ n → n - d.length = 0 ∧ ¬ (n ≥ d.length) ∧ (n ≠ 0 → (d.take n).isEmpty = false) := by
    intro h
    have hd : d ≠ [] := fun hd => by simp [hd] at h
    exact ⟨by omega, by omega, fun hn => by simp [List.take_eq_nil_iff, hn, hd]⟩
  refine LengthReady.elim (fun eof out => ?_) (fun eof out hb hne => ?_) w hw <;> by_cases hle : d.length ≤ n
  · have htake : d.take n = d := List.take_of_length_le hle
    by_cases hd : d = []
    · subst hd
      simp [step, doWrite, pendingHeaders, flushed]
      exact .sent ..
    · simp [step, doWrite, pendingHeaders, flushed, emit, hd, hle, htake]
      exact .sent ..
  · obtain ⟨hsub, hnle, hte⟩ := cut hle
    by_cases hn : n = 0
    · subst hn
      simp [step, doWrite, pendingHeaders, flushed, hnle, hsub]
      exact .sent ..
    · simp [step, doWrite, pendingHeaders, flushed, emit, hnle, hsub, hte hn]
      exact .sent ..
  · have htake : d.take n = d := List.take_of_length_le hle
    simp [step, doWrite, pendingHeaders, flushed, sendHeadersWithPayload, emit, hne, hle, htake]
    exact .sent ..
  · obtain ⟨hsub, hnle, hte⟩ := cut hle
    by_cases hn : n = 0
    · subst hn
      simp [step, doWrite, pendingHeaders, flushed, hnle, hsub, hne]
      exact ⟨rfl, rfl, rfl, rfl, Or.inr ⟨hb, rfl, hne, rfl⟩⟩
    · simp [step, doWrite, pendingHeaders, flushed, sendHeadersWithPayload, emit, hnle, hsub, hte hn, hne]
      exact .sent ..

theorem step_send_length (w : W) (n : Nat) (hw : LengthReady w n) :
    (step w .sendHeaders).2 = none ∧ LengthReady (step w .sendHeaders).1 n ∧
    flushed (step w .sendHeaders).1 = flushed w := by
  refine LengthReady.elim (fun eof out => ?_) (fun eof out hb hne => ?_) w hw
  · simp [step, pendingHeaders, flushed]
    exact .sent ..
  · simp [step, pendingHeaders, flushed, emit, hne]
    exact .sent ..

end Aio.C04
