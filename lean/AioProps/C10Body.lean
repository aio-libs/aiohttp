import AioProps.ChunkLoop
/-!
# C10: a protocol error never leaves a delivered body stream open

`error_ends_open_body`: if `feed_data` is called while a body is in progress (its stream was
handed to the application by an earlier call) and raises, the events of that call contain the
end of that body (`eof`) or an exception set on it (`payloadErr`) — the body's reader cannot be
left waiting behind the queued protocol error.
-/
namespace Aio.Http
open Aio

theorem payloadFeed_complete_eof (cfg : Cfg) (p : PState) (d rest : Bytes) (ev : List Ev)
    (h : payloadFeed cfg p d = (.complete rest, ev)) : Ev.eof ∈ ev := by
  cases hty : p.type with
  | length =>
    rcases payloadFeed_length cfg p d hty with ⟨_, hf⟩ | ⟨_, hf⟩ <;> rw [hf] at h <;> cases h
    exact List.mem_append_right _ (List.mem_singleton.2 rfl)
  | chunked => exact (chunkedLoop_pos cfg (payloadFeed_chunked_run hty h nofun).2).2
  | untilEof => rw [payloadFeed_untilEof cfg p d hty] at h; cases h
  | none => rw [payloadFeed_none cfg p d hty] at h; cases h

/-- **A protocol error never leaves a delivered body stream open.** -/
theorem error_ends_open_body (cfg : Cfg) (urlOk : Bool → Bytes → Bool) (f : Nat) (st : St) (p : PState) (d : Bytes)
    (e : Err) (hp : st.payload = some p) (herr : (feedLoop cfg urlOk f st d []).err = some e) :
    Ev.eof ∈ (feedLoop cfg urlOk f st d []).evs ∨ ∃ e', Ev.payloadErr e' ∈ (feedLoop cfg urlOk f st d []).evs := by
  cases f with
  | zero => simp [feedLoop] at herr
  | succ n =>
    by_cases hd : d = []
    · subst hd; rw [feedLoop_nil] at herr; cases herr
    · rw [feedLoop_succ cfg urlOk n st d [] hd, stepOnce_payload cfg urlOk st p d hp] at herr ⊢
      rcases hpf : payloadFeed cfg p d with ⟨r, pev⟩
      rw [hpf] at herr
      cases r with
      | needs p' => simp at herr
      | err e' rr =>
        cases rr
        · simp at herr
        · exact Or.inr ⟨e', by simp⟩
      | complete rest =>
        have heof := payloadFeed_complete_eof cfg p d rest pev hpf
        simp only [] at herr ⊢
        split
        · rw [feedLoop_acc]
          exact Or.inl (by simp [heof])
        · exact Or.inl (by simp [heof])

end Aio.Http
