import AioModel.C13
import AioProps.Basics
/-!
# C13 — the wire invariant

The wire clauses of C13 (stated with `closeCount`, `hasClose`, `dataAfterClose`) depend on five components of the
state only (`cfg`, `closed`, `wClosing`, `paused`, `frames`).  Most model functions leave them untouched
(`SameWire (f s) s`); the few that do not (`sendFrame`, `setClosed`, the `wClosing := true` of
`WebSocketWriter.close`'s `finally`, pausing and resuming the transport) have a lemma each.  The invariant is carried
from `step` down the call tree by each function's own case analysis (`fun_cases`, branches numbered in source
order); the branches that only rearrange state outside the wire fall to a final `hi.same`.
-/
namespace Aio.C13
open Aio

def closeCount (fs : List Frame) : Nat := (fs.filter Frame.isClose).length
def hasClose (fs : List Frame) : Bool := fs.any Frame.isClose
/-- some data frame occurs after some CLOSE frame -/
def dataAfterClose : List Frame → Bool
  | [] => false
  | f :: rest => (f.isClose && rest.any Frame.isData) || dataAfterClose rest

/-- Reducible, so that a frame lemma tagged `simp` yields one rewrite rule per component; itself `simp`, so that
as a goal it is taken apart into the five equations. -/
@[reducible, simp] def SameWire (s' s : St) : Prop :=
  s'.cfg = s.cfg ∧ s'.closed = s.closed ∧ s'.wClosing = s.wClosing ∧ s'.paused = s.paused ∧ s'.frames = s.frames

-- an `if` bound by a `let` or passed as an argument is not a branch for `fun_cases`; `simp` moves the five components into it
section
variable {c : Prop} [Decidable c] (a b : St)
@[simp] theorem cfg_ite : (if c then a else b).cfg = if c then a.cfg else b.cfg := apply_ite ..
@[simp] theorem closed_ite : (if c then a else b).closed = if c then a.closed else b.closed := apply_ite ..
@[simp] theorem wClosing_ite : (if c then a else b).wClosing = if c then a.wClosing else b.wClosing := apply_ite ..
@[simp] theorem paused_ite : (if c then a else b).paused = if c then a.paused else b.paused := apply_ite ..
@[simp] theorem frames_ite : (if c then a else b).frames = if c then a.frames else b.frames := apply_ite ..
end

@[simp] theorem wire_setT (s : St) (t : Tid) (f : Task → Task) : SameWire (setT s t f) s := ⟨rfl, rfl, rfl, rfl, rfl⟩

@[simp] theorem wire_wakeTask (s : St) (t : Tid) (v : FutSt) : SameWire (wakeTask s t v) s := ⟨rfl, rfl, rfl, rfl, rfl⟩

@[simp] theorem wire_wakeAll (s : St) (ts : List Tid) (v : FutSt) : SameWire (wakeAll s ts v) s := by
  unfold wakeAll
  induction ts generalizing s with
  | nil => simp
  | cons t ts ih => exact ih _

@[simp] theorem wire_cancelCb (s : St) (cb : Cb) : SameWire (cancelCb s cb) s := ⟨rfl, rfl, rfl, rfl, rfl⟩

@[simp] theorem wire_trClose (s : St) : SameWire (trClose s) s := by
  fun_cases trClose s <;> simp +zetaDelta

@[simp] theorem wire_srvCloseTransport (s : St) : SameWire (srvCloseTransport s) s := by
  fun_cases srvCloseTransport s <;> simp +zetaDelta

@[simp] theorem wire_srvSetCodeCloseTransport (s : St) (c : Nat) : SameWire (srvSetCodeCloseTransport s c) s :=
  wire_srvCloseTransport _

@[simp] theorem wire_cliRespClose (s : St) : SameWire (cliRespClose s) s := by
  fun_cases cliRespClose s <;> simp +zetaDelta

@[simp] theorem wire_releaseWaiter (s : St) : SameWire (releaseWaiter s) s := by
  fun_cases releaseWaiter s <;> simp +zetaDelta

@[simp] theorem wire_feedData (s : St) (m : Msg) : SameWire (feedData s m) s :=
  wire_releaseWaiter _

@[simp] theorem wire_feedEof (s : St) : SameWire (feedEof s) s :=
  wire_releaseWaiter { s with eof := true }

@[simp] theorem wire_queueSetException (s : St) (c : Nat) : SameWire (queueSetException s c) s := by
  fun_cases queueSetException s c <;> simp +zetaDelta

@[simp] theorem wire_readFromBuffer (s : St) : SameWire (readFromBuffer s).1 s := by
  fun_cases readFromBuffer s <;> simp +zetaDelta

@[simp] theorem wire_cancelTask (s : St) (t : Tid) : SameWire (cancelTask s t) s := by
  fun_cases cancelTask s t <;> simp +zetaDelta

@[simp] theorem wire_cancelPong (s : St) : SameWire (cancelPong s) s := by
  fun_cases cancelPong s <;> simp +zetaDelta

@[simp] theorem wire_cancelHeartbeat (s : St) : SameWire (cancelHeartbeat s) s := by
  fun_cases cancelHeartbeat s <;> simp +zetaDelta

@[simp] theorem wire_srvSetClosing (s : St) (c : Nat) : SameWire (srvSetClosing s c) s :=
  wire_cancelHeartbeat _

@[simp] theorem wire_cliSetClosing (s : St) : SameWire (cliSetClosing s) s :=
  wire_cancelHeartbeat _

@[simp] theorem wire_resetHeartbeat (s : St) : SameWire (resetHeartbeat s) s := by
  fun_cases resetHeartbeat s <;> simp +zetaDelta

@[simp] theorem wire_onDataReceived (s : St) : SameWire (onDataReceived s) s := by
  fun_cases onDataReceived s <;> simp +zetaDelta

@[simp] theorem wire_drainHelper (s : St) : SameWire (drainHelper s).1 s := by
  fun_cases drainHelper s <;> simp +zetaDelta

@[simp] theorem wire_park (s : St) (t : Tid) (pc : Pc) : SameWire (park s t pc) s := by
  fun_cases park s t pc <;> simp +zetaDelta

@[simp] theorem wire_finish (s : St) (t : Tid) (o : Outcome) : SameWire (finish s t o) s := by
  fun_cases finish s t o <;> simp +zetaDelta

@[simp] theorem wire_exitTmo (s : St) (t : Tid) (e : Option Exc) : SameWire (exitTmo s t e).1 s := by
  fun_cases exitTmo s t e <;> simp +zetaDelta

@[simp] theorem wire_armTmo (s : St) (t : Tid) (d : Nat) : SameWire (armTmo s t d) s := by
  fun_cases armTmo s t d <;> simp +zetaDelta

@[simp] theorem wire_closeReturn (s : St) (t : Tid) (r : Except Exc Bool) : SameWire (closeReturn s t r) s := by
  fun_cases closeReturn s t r <;> simp +zetaDelta

@[simp] theorem wire_recvFinally (s : St) : SameWire (recvFinally s) s := by
  fun_cases recvFinally s <;> simp +zetaDelta

@[simp] theorem wire_baseConnLost (s : St) (e : Bool) : SameWire (baseConnLost s e) s := by
  fun_cases baseConnLost s e <;> simp +zetaDelta

@[simp] theorem wire_connLost (s : St) (e : Bool) : SameWire (connLost s e) s := by
  fun_cases connLost s e <;> simp +zetaDelta
@[simp] theorem connLost_cfg (s : St) (e : Bool) : (connLost s e).cfg = s.cfg :=
  (wire_connLost s e).1
@[simp] theorem connLost_closed (s : St) (e : Bool) : (connLost s e).closed = s.closed :=
  (wire_connLost s e).2.1
@[simp] theorem connLost_wClosing (s : St) (e : Bool) : (connLost s e).wClosing = s.wClosing :=
  (wire_connLost s e).2.2.1
@[simp] theorem connLost_paused (s : St) (e : Bool) : (connLost s e).paused = s.paused :=
  (wire_connLost s e).2.2.2.1
@[simp] theorem connLost_frames (s : St) (e : Bool) : (connLost s e).frames = s.frames :=
  (wire_connLost s e).2.2.2.2

@[simp] theorem wire_fireDue (s : St) : SameWire (fireDue s) s := by
  fun_cases fireDue s <;> simp +zetaDelta

@[simp] theorem wire_peerFrame (s : St) (f : PeerFrame) : SameWire (peerFrame s f) s := by
  fun_cases peerFrame s f <;> simp +zetaDelta
@[simp] theorem peerFrame_cfg (s : St) (f : PeerFrame) : (peerFrame s f).cfg = s.cfg :=
  (wire_peerFrame s f).1
@[simp] theorem peerFrame_closed (s : St) (f : PeerFrame) : (peerFrame s f).closed = s.closed :=
  (wire_peerFrame s f).2.1
@[simp] theorem peerFrame_wClosing (s : St) (f : PeerFrame) : (peerFrame s f).wClosing = s.wClosing :=
  (wire_peerFrame s f).2.2.1
@[simp] theorem peerFrame_paused (s : St) (f : PeerFrame) : (peerFrame s f).paused = s.paused :=
  (wire_peerFrame s f).2.2.2.1
@[simp] theorem peerFrame_frames (s : St) (f : PeerFrame) : (peerFrame s f).frames = s.frames :=
  (wire_peerFrame s f).2.2.2.2

@[simp] theorem wire_srvCloseExc1 (s : St) (t : Tid) (e : Exc) : SameWire (srvCloseExc1 s t e) s := by
  fun_cases srvCloseExc1 s t e <;> simp +zetaDelta

@[simp] theorem wire_srvCloseExc2 (s : St) (t : Tid) (e : Exc) : SameWire (srvCloseExc2 s t e) s := by
  fun_cases srvCloseExc2 s t e <;> simp +zetaDelta

@[simp] theorem wire_srvCloseRead (s : St) (t : Tid) : SameWire (srvCloseRead s t) s := by
  fun_cases srvCloseRead s t <;> simp +zetaDelta

@[simp] theorem wire_srvCloseAfterWait (s : St) (t : Tid) : SameWire (srvCloseAfterWait s t) s := by
  fun_cases srvCloseAfterWait s t <;> simp +zetaDelta

@[simp] theorem wire_srvCloseAfterDrain (s : St) (t : Tid) : SameWire (srvCloseAfterDrain s t) s := by
  fun_cases srvCloseAfterDrain s t <;> simp +zetaDelta

@[simp] theorem wire_srvCloseAfterFrame (s : St) (t : Tid) : SameWire (srvCloseAfterFrame s t) s := by
  fun_cases srvCloseAfterFrame s t <;> simp +zetaDelta

@[simp] theorem wire_cliCloseExc (s : St) (t : Tid) (e : Exc) : SameWire (cliCloseExc s t e) s := by
  fun_cases cliCloseExc s t e <;> simp +zetaDelta

@[simp] theorem wire_cliCloseRead (s : St) (t : Tid) : SameWire (cliCloseRead s t) s := by
  fun_cases cliCloseRead s t <;> simp +zetaDelta

@[simp] theorem wire_cliCloseAfterFrame (s : St) (t : Tid) : SameWire (cliCloseAfterFrame s t) s := by
  fun_cases cliCloseAfterFrame s t <;> simp +zetaDelta

@[simp] theorem wire_flowControl (s : St) : SameWire (flowControl s).1 s := by
  fun_cases flowControl s <;> simp +zetaDelta

/-- The writer's flow control parks the sender only when `_output_size` has exceeded the limit (strictly) and the
transport is write-paused; in every other case `send_frame` returns at once. -/
theorem flowControl_parks_only_over_limit_and_paused (s : St) (h : (flowControl s).2 = .park) :
    s.outSize > s.cfg.limit ∧ s.paused = true := by
  revert h
  fun_cases flowControl s with
  | case1 h1 h2 => exact fun _ => ⟨h1, h2⟩
  | _ => exact (nomatch ·)

@[simp] theorem wire_resumeCloseRead (s : St) (t : Tid) (rv : Option Exc) : SameWire (resumeCloseRead s t rv) s := by
  fun_cases resumeCloseRead s t rv <;> simp +zetaDelta

@[simp] theorem wire_recvBegin (s : St) (t : Tid) : SameWire (recvBegin s t) s := by
  fun_cases recvBegin s t <;> simp +zetaDelta

@[simp] theorem wire_resumeReadValue (s : St) (rv : Option Exc) : SameWire (resumeReadValue s rv).1 s := by
  fun_cases resumeReadValue s rv <;> simp +zetaDelta

@[simp] theorem wire_hbBegin (s : St) (hb : Nat) : SameWire (hbBegin s hb) s := by
  fun_cases hbBegin s hb <;> simp +zetaDelta

@[simp] theorem wire_setClosed (s : St) : SameWire (setClosed s) { s with closed := true } :=
  wire_cancelHeartbeat _

theorem closeCount_append (fs : List Frame) (f : Frame) :
    closeCount (fs ++ [f]) = closeCount fs + (if f.isClose then 1 else 0) := by
  unfold closeCount
  rw [List.filter_append]
  by_cases h : f.isClose <;> simp [h]

theorem hasClose_append (fs : List Frame) (f : Frame) :
    hasClose (fs ++ [f]) = (hasClose fs || f.isClose) := by
  simp [hasClose]

theorem dataAfterClose_append (fs : List Frame) (f : Frame) :
    dataAfterClose (fs ++ [f]) = (dataAfterClose fs || (hasClose fs && f.isData)) := by
  induction fs with
  | nil => simp [dataAfterClose, hasClose]
  | cons g rest ih =>
    simp only [List.cons_append, dataAfterClose, ih, hasClose, List.any_cons, List.any_append, List.any_nil,
      Bool.or_false]
    cases g.isClose <;> cases f.isData <;> simp

theorem closeCount_zero_of_not_hasClose (fs : List Frame) (h : hasClose fs = false) : closeCount fs = 0 := by
  simpa [closeCount, hasClose] using h

theorem not_passesClosing_of_isData {fr : Frame} (h : fr.isData = true) : fr.passesClosing = false := by
  cases fr <;> first | rfl | cases h

/-- The wire invariant of a session configured with `c0`.  `strong` is a fact about the run as a whole —
the writer is the repaired one, or the transport is never write-paused — under which back-pressure cannot
separate the CLOSE frame from `_closing` (`safe`), and the last two clauses hold. -/
structure Inv (strong : Prop) (c0 : Cfg) (s : St) : Prop where
  cfgEq : s.cfg = c0
  closed_of_close : hasClose s.frames = true → s.closed = true
  count : closeCount s.frames ≤ 1
  safe : strong → c0.fixed = true ∨ s.paused = false
  wclosing : strong → hasClose s.frames = true → s.wClosing = true
  nodata : strong → dataAfterClose s.frames = false

variable {strong : Prop} {c0 : Cfg}

/-- Left out, the side condition is found by `simp` with the frame lemmas (`zetaDelta`: intermediate states that
`fun_cases` leaves as `let` variables are unfolded). -/
theorem Inv.same {s s' : St} (hi : Inv strong c0 s) (h : SameWire s' s := by simp +zetaDelta) :
    Inv strong c0 s' := by
  obtain ⟨h1, h2, h3, h4, h5⟩ := h
  exact ⟨h1 ▸ hi.cfgEq, h5 ▸ h2 ▸ hi.closed_of_close, h5 ▸ hi.count, h4 ▸ hi.safe, h5 ▸ h3 ▸ hi.wclosing,
    h5 ▸ hi.nodata⟩

theorem Inv_init (cfg : Cfg) : Inv strong cfg (init cfg) := by
  have h : Inv strong cfg { cfg := cfg } :=
    ⟨rfl, (nomatch ·), Nat.zero_le _, fun _ => .inr rfl, fun _ => (nomatch ·), fun _ => rfl⟩
  exact h.same (by fun_cases init cfg <;> simp +zetaDelta)

theorem Inv_setClosed {s s' : St} (hi : Inv strong c0 s)
    (h : SameWire s' { s with closed := true } := by simp +zetaDelta) : Inv strong c0 s' :=
  (show Inv strong c0 { s with closed := true } from
    ⟨hi.cfgEq, fun _ => rfl, hi.count, hi.safe, hi.wclosing, hi.nodata⟩).same h

theorem Inv_setWClosing {s : St} (hi : Inv strong c0 s) : Inv strong c0 { s with wClosing := true } :=
  ⟨hi.cfgEq, hi.closed_of_close, hi.count, hi.safe, fun _ _ => rfl, hi.nodata⟩

theorem Inv_setPaused {s : St} (b : Bool) (h : strong → c0.fixed = true ∨ b = false) (hi : Inv strong c0 s) :
    Inv strong c0 { s with paused := b } :=
  ⟨hi.cfgEq, hi.closed_of_close, hi.count, h, hi.wclosing, hi.nodata⟩

theorem Inv_writeFrame {s : St} (fr : Frame) (n : Nat) (hf : fr.isClose = false)
    (hpass : (s.wClosing && !fr.passesClosing) = false) (hi : Inv strong c0 s) :
    Inv strong c0 (writeFrame s fr n) := by
  have e1 : (writeFrame s fr n).frames = s.frames ++ [fr] := rfl
  have e2 : (writeFrame s fr n).wClosing = s.wClosing := by simp [writeFrame, hf]
  refine ⟨hi.cfgEq, ?_, ?_, hi.safe, ?_, ?_⟩
  · rw [e1, hasClose_append, hf, Bool.or_false]; exact hi.closed_of_close
  · rw [e1, closeCount_append, hf]; exact hi.count
  · intro hs; rw [e1, e2, hasClose_append, hf, Bool.or_false]; exact hi.wclosing hs
  · intro hs
    rw [e1, dataAfterClose_append, hi.nodata hs, Bool.false_or]
    cases hd : fr.isData with
    | false => exact Bool.and_false _
    | true =>
      -- were a CLOSE frame on the wire, `_closing` would be set and the data frame refused
      cases hc : hasClose s.frames with
      | false => rfl
      | true => rw [hi.wclosing hs hc, not_passesClosing_of_isData hd] at hpass; cases hpass

theorem Inv_sendFrame {s : St} (fr : Frame) (n : Nat) (hf : fr.isClose = false) (hi : Inv strong c0 s) :
    Inv strong c0 (sendFrame s fr n).1 := by
  fun_cases sendFrame s fr n with
  | case3 h1 => exact (Inv_writeFrame fr n hf (by simpa using h1) hi).same
  | _ => exact hi

theorem Inv_writeClose {s : St} (c n : Nat) (w : Bool) (hw : strong → w = true) (hi : Inv strong c0 s)
    (hcl : s.closed = true) (hn : hasClose s.frames = false) :
    Inv strong c0 { writeFrame s (.close c) n with wClosing := w } := by
  refine ⟨hi.cfgEq, fun _ => hcl, ?_, hi.safe, fun hs _ => hw hs, fun hs => ?_⟩
  · simp only [writeFrame]
    rw [closeCount_append, closeCount_zero_of_not_hasClose _ hn]
    exact Nat.le_refl 1
  · simp only [writeFrame]
    rw [dataAfterClose_append, hi.nodata hs, hn]
    rfl

/-- `close()` on a session that is not `closed` — so no CLOSE frame is on the wire — sets `closed` and sends the
CLOSE frame.  Afterwards either the caller sets `_closing` in the same atomic section, or `send_frame` parked in
the drain — which needs a write-paused transport — and only the repaired writer has `_closing` set then. -/
theorem Inv_sendFrame_close {s : St} (s1 : St) (c n : Nat) (hi : Inv strong c0 s) (hcl : ¬s.closed = true)
    (h1 : SameWire s1 { s with closed := true } := by simp) :
    Inv strong c0 { (sendFrame s1 (.close c) n).1 with wClosing := true } ∧
    ((sendFrame s1 (.close c) n).2 = .park → Inv strong c0 (sendFrame s1 (.close c) n).1) := by
  have hi1 : Inv strong c0 s1 := Inv_setClosed hi h1
  obtain ⟨-, hcl1, -, -, hfr⟩ := h1
  have hn : hasClose s1.frames = false := by
    rw [hfr]
    cases hc : hasClose s.frames with
    | false => rfl
    | true => exact absurd (hi.closed_of_close hc) hcl
  fun_cases sendFrame s1 (.close c) n with
  | case3 =>
    refine ⟨(Inv_writeClose c n true (fun _ => rfl) hi1 hcl1 hn).same, fun hp =>
      (Inv_writeClose c n (writeFrame s1 (.close c) n).wClosing (fun hs => ?_) hi1 hcl1 hn).same⟩
    rcases hi1.safe hs with h | h
    · simp [writeFrame, Frame.isClose, hi1.cfgEq, h]
    · cases h.symm.trans (flowControl_parks_only_over_limit_and_paused _ hp).2
  | _ => exact ⟨Inv_setWClosing hi1, (nomatch ·)⟩

theorem Inv_handlePingPongExc {s : St} (e : Exc) (hi : Inv strong c0 s) :
    Inv strong c0 (handlePingPongExc s e) := by
  unfold handlePingPongExc
  refine ite_elim (Inv strong c0) (fun _ => hi) fun _ => ?_
  simp only []
  split <;> exact ite_elim (Inv strong c0) (fun _ => Inv_setClosed hi) fun _ => Inv_setClosed hi

theorem Inv_srvCloseEnter {s : St} (t : Tid) (code : Nat) (drain : Bool) (hi : Inv strong c0 s) :
    Inv strong c0 (srvCloseEnter s t code drain) := by
  unfold srvCloseEnter
  refine ite_elim (Inv strong c0) (fun _ => hi.same) fun hcl => ?_
  have key := Inv_sendFrame_close (setT (setClosed s) t fun x => { x with cdrain := drain, startedAt := s.now })
    code 2 hi hcl
  simp only []
  split
  · next hp => exact (key.2 hp).same (wire_park _ _ _)
  · exact key.1.same (wire_srvCloseExc1 _ _ _)
  · exact key.1.same (wire_srvCloseAfterFrame _ _)

theorem Inv_cliCloseAfterWait {s : St} (t : Tid) (code : Nat) (hi : Inv strong c0 s) :
    Inv strong c0 (cliCloseAfterWait s t code) := by
  unfold cliCloseAfterWait
  refine ite_elim (Inv strong c0) (fun _ => hi.same) fun hcl => ?_
  have key := Inv_sendFrame_close (setT (setClosed s) t fun x => { x with startedAt := s.now }) code 2 hi hcl
  simp only []
  split
  · next hp => exact (key.2 hp).same (wire_park _ _ _)
  · exact key.1.same (wire_cliCloseExc _ _ _)
  · exact key.1.same (wire_cliCloseAfterFrame _ _)

theorem Inv_closeEnter {s : St} (t : Tid) (code : Nat) (drain : Bool) (hi : Inv strong c0 s) :
    Inv strong c0 (closeEnter s t code drain) := by
  unfold closeEnter
  split
  · exact Inv_srvCloseEnter t code drain hi
  · exact ite_elim (Inv strong c0) (fun _ => hi.same) fun _ => Inv_cliCloseAfterWait t code hi

theorem Inv_recvNestedClose {s : St} (t : Tid) (code : Nat) (drain : Bool) (rr : RecvRes) (hi : Inv strong c0 s) :
    Inv strong c0 (recvNestedClose s t code drain rr) :=
  Inv_closeEnter t code drain (hi.same (wire_setT _ _ _))

theorem Inv_recvExc {s : St} (t : Tid) (e : Exc) (hi : Inv strong c0 s) : Inv strong c0 (recvExc s t e) := by
  -- 1, 2, 6, 7: `TimeoutError` and `CancelledError` are re-raised, on either side
  fun_cases recvExc s t e with
  | case1 | case2 | case6 | case7 => exact hi.same
  | _ => exact Inv_recvNestedClose _ _ _ _ hi.same

theorem Inv_recvGot {s : St} (t : Tid) (r : Except Exc Msg) (hi : Inv strong c0 s) :
    Inv strong c0 (recvGot s t r).1 := by
  -- 1: `read()` raised; 4, 6: a CLOSE message with `autoclose`, server and client; 10-12: a PING answered
  fun_cases recvGot s t r with
  | case1 => exact Inv_recvExc _ _ hi
  | case4 | case6 => exact Inv_recvNestedClose _ _ _ _ hi.same
  | case10 | case11 | case12 => exact (Inv_sendFrame .pong 0 rfl hi).same
  | _ => exact hi.same

theorem Inv_recvLoop {s : St} (t : Tid) (fuel : Nat) (hi : Inv strong c0 s) : Inv strong c0 (recvLoop s t fuel) := by
  fun_induction recvLoop s t fuel with
  | case7 => exact Inv_recvNestedClose _ _ _ _ hi
  | case8 => exact Inv_recvExc _ _ hi.same
  | case10 =>
    rename_i ih
    exact ih (Inv_recvGot _ _ hi.same)
  | case11 => exact Inv_recvGot _ _ hi.same
  | _ => exact hi.same

theorem Inv_sendStart {s : St} (t : Tid) (fr : Frame) (n : Nat) (hf : fr.isClose = false) (hi : Inv strong c0 s) :
    Inv strong c0 (sendStart s t fr n) := by
  fun_cases sendStart s t fr n <;> exact (Inv_sendFrame fr n hf hi).same

theorem Inv_recvAfterRead {s : St} (t : Tid) (r : Except Exc Msg) (hi : Inv strong c0 s) :
    Inv strong c0 (recvAfterRead s t r) := by
  fun_cases recvAfterRead s t r with
  | case1 => exact Inv_recvLoop _ _ (Inv_recvGot _ _ hi.same)
  | case2 => exact Inv_recvGot _ _ hi.same

theorem Inv_runTask {s : St} (t : Tid) (hi : Inv strong c0 s) : Inv strong c0 (runTask s t) := by
  -- 3, 11: `receive()` starts or goes on after its PONG; 4: `close()` starts; 5-7: a send starts; 12: resumed in `read()`; 21: client, after `_close_wait`
  fun_cases runTask s t with
  | case3 | case11 => exact Inv_recvLoop _ _ hi.same
  | case4 => exact Inv_closeEnter _ _ _ hi.same
  | case5 | case6 | case7 => exact Inv_sendStart _ _ _ rfl hi.same
  | case12 => exact Inv_recvAfterRead _ _ hi.same
  | case13 | case14 | case15 | case16 => exact (Inv_setWClosing hi).same   -- resumed in the drain of the CLOSE frame
  | case21 => exact Inv_cliCloseAfterWait _ _ hi.same
  | _ => exact hi.same

theorem Inv_pingTaskDone {s : St} (o : Option Outcome) (hi : Inv strong c0 s) : Inv strong c0 (pingTaskDone s o) := by
  unfold pingTaskDone
  simp only []
  split
  · exact hi.same
  · next e _ => exact (Inv_handlePingPongExc e hi).same
  · exact hi.same

theorem Inv_sendHeartbeat {s : St} (hi : Inv strong c0 s) : Inv strong c0 (sendHeartbeat s) := by
  have h2 (hb : Nat) : Inv strong c0 (sendFrame (hbBegin { s with hbCb := false } hb) .ping 0).1 :=
    Inv_sendFrame .ping 0 rfl hi.same
  fun_cases sendHeartbeat s with
  | case4 _ _ _ hb => exact (h2 hb).same
  | case5 _ _ _ hb | case6 _ _ _ hb => exact Inv_pingTaskDone _ (h2 hb).same
  | _ => exact hi.same

theorem Inv_pongNotReceived {s : St} (hi : Inv strong c0 s) : Inv strong c0 (pongNotReceived s) := by
  fun_cases pongNotReceived s with
  | case2 => exact hi
  | _ => exact Inv_handlePingPongExc _ hi

theorem Inv_runCb {s : St} (cb : Cb) (hi : Inv strong c0 s) : Inv strong c0 (runCb s cb) := by
  fun_cases runCb s cb with
  | case1 => exact Inv_runTask _ hi
  | case5 => exact Inv_sendHeartbeat hi
  | case6 => exact Inv_pongNotReceived hi
  | case8 => exact Inv_pingTaskDone _ hi
  | _ => exact hi.same

/-- One transition keeps the wire invariant.  Write-pausing an unrepaired writer is the one transition that
breaks `safe`; resuming does not need it back, because under `strong` it never went away. -/
theorem Inv_step {s : St} (l : Label) (hp : l = .pauseW → strong → c0.fixed = true) (hi : Inv strong c0 s) :
    Inv strong c0 (step s l) := by
  -- 8: `pauseW` taking effect; 10-12: `resumeW`, by state of the drain future; 14: `tick` with a ready callback
  fun_cases step s l with
  | case8 => exact Inv_setPaused true (fun hs => .inl (hp rfl hs)) hi
  | case10 | case11 | case12 => exact (Inv_setPaused false (fun _ => .inr rfl) hi).same
  | case14 => exact Inv_runCb _ hi.same
  | _ => exact hi.same

theorem Inv_run {s : St} (ls : List Label) (hp : .pauseW ∈ ls → strong → c0.fixed = true) (hi : Inv strong c0 s) :
    Inv strong c0 (run s ls) := by
  induction ls generalizing s with
  | nil => exact hi
  | cons l ls ih =>
    exact ih (fun h => hp (List.mem_cons_of_mem _ h)) (Inv_step l (fun hl => hp (hl ▸ List.mem_cons_self)) hi)

end Aio.C13
