import AioProps.C01
import AioProps.ChunkLoop
/-!
# C01 at the level of whole streams

`run_messages_strict`: every request the parser delivers while reading ANY byte stream in
ANY segmentation, `feed_eof` included, has a head that is a strict RFC 9112 reading of some
CRLF-delimited lines (`StrictEv`): strict request line, strict field lines in order, no singleton
header twice.  One iteration: `stepOnce_evs_strict`; one `feedLoop` run: `stream_messages_strict`.
-/
namespace Aio.Http
open Aio

theorem payloadFeed_no_msg (cfg : Cfg) (p : PState) (chunk : Bytes) :
    NoMsg (payloadFeed cfg p chunk).2 := by
  fun_cases payloadFeed cfg p chunk
  · exact noMsg_append (dataEv_no_msg _) (noMsg_single rfl)
  · exact dataEv_no_msg _
  · exact noMsg_nil
  · exact chunkedLoop_no_msg cfg _ (Nat.lt_succ_self _) noMsg_nil
  · exact dataEv_no_msg _
  · exact noMsg_nil

/-- a delivered request event whose head is a strict reading -/
def StrictEv (e : Ev) : Prop :=
  match e with
  | .msg m _ => ∃ line rest, StrictRequestLine line m.method m.path m.vmajor m.vminor ∧
                  FieldsOf rest m.headers ∧ NoSingletonDup m.headers
  | _ => True

theorem strictEv_of_noMsg {l : List Ev} (h : NoMsg l) : ∀ e ∈ l, StrictEv e := by
  intro e he
  cases e with
  | msg m b => exact nomatch h _ he
  | _ => trivial

theorem parseRequest_strictEv {cfg : Cfg} (hstrict : cfg.lax = false) {urlOk : Bool → Bytes → Bool} {lines : List Bytes}
    {m : Msg} (h : parseRequest cfg urlOk lines = .ok m) (b : Bool) : StrictEv (.msg m b) := by
  cases lines with
  | nil => cases h
  | cons line rest => exact ⟨line, rest, accepted_request_is_strict cfg hstrict urlOk line rest m h⟩

theorem stepOnce_evs_strict (cfg : Cfg) (hreq : cfg.response = false) (hstrict : cfg.lax = false)
    (urlOk : Bool → Bytes → Bool) (st : St) (d : Bytes) :
    ∀ e ∈ (stepOnce cfg urlOk st d).evs, StrictEv e := by
  have hs := stepOnce_spec cfg urlOk st d
  generalize stepOnce cfg urlOk st d = s at hs
  have hbody : ∀ {p r ev}, payloadFeed cfg p d = (r, ev) → NoMsg ev := fun {p _ _} hf => by
    have := payloadFeed_no_msg cfg p d; rwa [hf] at this
  have hperr : ∀ e, NoMsg [Ev.payloadErr e] := fun e x hx => by cases List.mem_singleton.mp hx; rfl
  cases hs
  case needs _ hf => exact strictEv_of_noMsg (hbody hf)
  case complete _ hf => exact strictEv_of_noMsg (hbody hf)
  case raised _ hf => exact strictEv_of_noMsg (noMsg_append (hbody hf) (hperr _))
  case swallowed _ hf => exact strictEv_of_noMsg (noMsg_append (hbody hf) (hperr _))
  case partLine =>
    rcases partialLine_cases cfg st d [] with ⟨e, hpl⟩ | ⟨hpl, _⟩ <;> rw [hpl] <;> exact fun _ h => nomatch h
  case head ho =>
    obtain ⟨msg, hp, _, _, _, hparse, _, hev, _⟩ := onHeaderBlock_ok ho
    rw [hreq] at hparse
    have hmsg := parseRequest_strictEv hstrict hparse hp
    rcases hev with rfl | rfl
    · exact List.forall_mem_singleton.mpr hmsg
    · exact List.forall_mem_cons.mpr ⟨hmsg, strictEv_of_noMsg (noMsg_single rfl)⟩
  -- the other iterations emit nothing
  all_goals exact fun _ h => nomatch h

/-- **Every request delivered from any byte stream, in any segmentation, is a strict reading.**
(`acc` are the events of the earlier iterations; each `feed_data` call is one `feedLoop` run.) -/
theorem stream_messages_strict (cfg : Cfg) (hreq : cfg.response = false) (hstrict : cfg.lax = false)
    (urlOk : Bool → Bytes → Bool) :
    ∀ (f : Nat) (st : St) (d : Bytes) (acc : List Ev), (∀ e ∈ acc, StrictEv e) →
      ∀ e ∈ (feedLoop cfg urlOk f st d acc).evs, StrictEv e := by
  intro f st d acc
  have hstep : ∀ {st d s}, stepOnce cfg urlOk st d = s → ∀ e ∈ s.evs, StrictEv e :=
    fun h => h ▸ stepOnce_evs_strict cfg hreq hstrict urlOk _ _
  fun_induction feedLoop cfg urlOk f st d acc
  case case1 | case2 => exact id
  case case3 hs | case5 hs _ => exact fun h => List.forall_mem_append.mpr ⟨h, hstep hs⟩
  case case4 hs _ ih => exact fun h => ih (List.forall_mem_append.mpr ⟨h, hstep hs⟩)

theorem feed_messages_strict (cfg : Cfg) (hreq : cfg.response = false) (hstrict : cfg.lax = false)
    (urlOk : Bool → Bytes → Bool) (st : St) (d : Bytes) :
    ∀ e ∈ (feed cfg urlOk st d).evs, StrictEv e := by
  unfold feed
  split
  · simp
  · exact stream_messages_strict cfg hreq hstrict urlOk _ _ _ [] (fun _ h => nomatch h)

/-- `feed_eof()` delivers at most one more request, also strict -/
theorem feedEof_messages_strict (cfg : Cfg) (hreq : cfg.response = false) (hstrict : cfg.lax = false)
    (urlOk : Bool → Bytes → Bool) (st : St) :
    ∀ e ∈ (feedEof cfg urlOk st).1, StrictEv e := by
  have heof : ∀ e ∈ [Ev.eof], StrictEv e := strictEv_of_noMsg (noMsg_single rfl)
  fun_cases feedEof cfg urlOk st
  -- the two branches that report `eof`, the one that delivers a last request, and those that deliver nothing
  case case2 => exact heof
  case case4 => exact heof
  case case8 _ _ _ _ lines r m hm =>
    have hm' : parseRequest cfg urlOk lines = .ok m := by simpa only [r, hreq, Bool.false_eq_true, if_false] using hm
    exact List.forall_mem_singleton.mpr (parseRequest_strictEv hstrict hm' false)
  all_goals exact fun _ h => nomatch h

/-- all events of a connection: the reads in order, then (optionally) end of stream -/
def runEvents (cfg : Cfg) (urlOk : Bool → Bytes → Bool) : St → List Bytes → Bool → List Ev
  | st, [], eof => if eof then (feedEof cfg urlOk st).1 else []
  | st, d :: ds, eof =>
    let o := feed cfg urlOk st d
    if o.err.isSome then o.evs else o.evs ++ runEvents cfg urlOk o.st ds eof

/-- **C01 for whole connections.** Whatever bytes arrive, in whatever reads, from whatever
parser state, every request the strict server-side parser ever hands to the application has a
request line and header block that are strict readings (`HttpSpec`). -/
theorem run_messages_strict (cfg : Cfg) (hreq : cfg.response = false) (hstrict : cfg.lax = false)
    (urlOk : Bool → Bytes → Bool) (st : St) (ds : List Bytes) (eof : Bool) :
    ∀ e ∈ runEvents cfg urlOk st ds eof, StrictEv e := by
  fun_induction runEvents cfg urlOk st ds eof
  · exact feedEof_messages_strict cfg hreq hstrict urlOk _
  · exact fun _ h => nomatch h
  · exact feed_messages_strict cfg hreq hstrict urlOk _ _
  · next ih => exact List.forall_mem_append.mpr ⟨feed_messages_strict cfg hreq hstrict urlOk _ _, ih⟩

/-- Non-vacuity: `GET / HTTP/1.1 CRLF Host: a CRLF CRLF`, delivered as two reads cut inside the
version, is handed to the application (so the theorem speaks about a real delivery), and the
default configuration is the strict request parser. -/
example : ((runEvents {} (fun _ _ => true) {} [[71, 69, 84, 32, 47, 32, 72, 84],
    [84, 80, 47, 49, 46, 49, 13, 10, 72, 111, 115, 116, 58, 32, 97, 13, 10, 13, 10]] false).any Ev.isMsg) = true
    ∧ ({} : Cfg).response = false ∧ ({} : Cfg).lax = false := by
  decide +kernel

end Aio.Http
