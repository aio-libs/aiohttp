import AioProps.C19Lemmas
/-!
# C19 — property theorems (multipart codec round trip, base64 alignment, truthful size, replayable
file-like payloads, reader termination)

Model: `AioModel/C19.lean` (= `aiohttp/multipart.py` over a lazy model of `StreamReader`).
Every statement quantifies over all byte strings / boundaries / chunkings of the stated shape.
`sub` is always the delimiter `b"\r\n" + self._boundary` the body-part reader searches for.
-/
namespace Aio.C19
open Aio

/-! ## the chunk loop on the bytes a writer produces -/

/-- **Where the first delimiter is.** In `CRLF ++ content ++ CRLF ++ "--boundary" ++ rest` the
first occurrence of the delimiter is the one that follows the content, provided the (encoded)
content does not contain the delimiter and the boundary contains no CR (the writer refuses
such boundaries: `boundaryOk`). -/
theorem first_delimiter_follows_content (b c rest : Bytes) (hcr : (13 : UInt8) ∉ b)
    (hfree : ∀ j, isPrefix (CRLF ++ b) ((CRLF ++ c).drop j) = false) :
    Delim (CRLF ++ b) (CRLF ++ c ++ (CRLF ++ b) ++ rest) (c.length + 2) :=
  delim_after (a := 13) (t := 10 :: b) (X := CRLF ++ c) rest
    (fun h => by cases h with | tail _ h => exact hcr h) hfree

/-- **Round trip of one part's content under any chunking.** The data after a part's headers is
`c ++ CRLF ++ b ++ rest` (`b` = `--boundary`). Run the `read_chunk` loop (window search,
push-back, `at_eof`) with the first call reading `k0` bytes and the following calls obtaining
fresh chunks of *any* sizes `ks` (each at least `|sub|` long, or whatever is left at the end of
the data — this is what the gathering loop of `_read_chunk_from_stream` guarantees for every
segmentation of the transport and every legal `size`). If the delimiter does not occur in
`CRLF ++ c` and the boundary has no CR, the loop ends (within `|c| + 4` calls) and the
concatenation of the chunks it handed out is exactly `c`. -/
theorem roundtrip_any_chunking (b c rest : Bytes) (k0 : Nat) (ks : List Nat)
    (hcr : (13 : UInt8) ∉ b)
    (hfree : ∀ j, isPrefix (CRLF ++ b) ((CRLF ++ c).drop j) = false)
    (hks : ∀ k ∈ ks, (CRLF ++ b).length ≤ k) (hlen : c.length + 4 ≤ ks.length) :
    absRead (CRLF ++ b) ks (CRLF ++ (c ++ (CRLF ++ b) ++ rest).take k0) true
      ((c ++ (CRLF ++ b) ++ rest).drop k0) [] = some c := by
  rw [absRead_correct ks _ _ [] _ true _ (first_delimiter_follows_content b c rest hcr hfree)
    (by simp only [List.append_assoc, List.take_append_drop]) (fun h => nomatch h) (Nat.le_add_left 1 _)
    (fun _ => Nat.le_add_left 2 _) hks hlen,
    List.append_assoc (CRLF ++ c), List.take_left' (l₁ := CRLF ++ c) (i := c.length + 2) rfl]
  rfl

/-! ## base64 alignment -/

/-- **Alignment loses nothing**: the chunk handed out followed by the new carry is the input. -/
theorem b64_align_conserves (chunk : Bytes) (size : Nat) (atEnd : Bool) :
    (alignB64 chunk size atEnd).1 ++ (alignB64 chunk size atEnd).2 = chunk := by
  unfold alignB64
  split
  next c0 carry0 heq =>
    have h0 : c0 ++ carry0 = chunk := by
      split at heq <;> injection heq with h1 h2 <;> subst h1 <;> subst h2 <;> simp
    simp only
    split
    · exact h0
    · split
      · exact h0
      · simp only [← List.append_assoc, List.take_append_drop]; exact h0

/-- **Alignment before the end of a part**: the chunk handed out holds whole base64 quartets —
or fewer than four base64 characters altogether (the escape `if not cut: return chunk`;
this second case is reachable and is the recorded finding, see `b64_short_chunk_not_aligned`). -/
theorem b64_align_quartets (chunk : Bytes) (size : Nat) :
    b64count (alignB64 chunk size false).1 % 4 = 0 ∨ b64count (alignB64 chunk size false).1 < 4 := by
  unfold alignB64
  split
  next c0 carry0 _ =>
    simp only [Bool.or_false]
    by_cases hrem : b64count c0 % 4 = 0
    · left; rw [if_pos (decide_eq_true hrem)]; exact hrem
    · obtain ⟨m, hw, hb⟩ := walkBack_spec c0.reverse c0.length (b64count c0 % 4)
        (by rw [b64count_reverse]; exact Nat.mod_le _ _)
      -- the bytes after the cut hold exactly the characters in excess of whole quartets
      have hdrop : b64count (c0.drop (c0.length - m)) = b64count c0 % 4 := by
        rw [← hb, List.take_reverse, b64count_reverse]
      have hsplit := b64count_append (c0.take (c0.length - m)) (c0.drop (c0.length - m))
      rw [List.take_append_drop] at hsplit
      rw [if_neg (by rwa [decide_eq_true_eq]), hw]
      by_cases hcut : c0.length - m = 0
      · right
        rw [if_pos hcut]
        rw [hcut, List.drop_zero] at hdrop
        show b64count c0 < 4
        rw [hdrop]
        exact Nat.mod_lt _ (by decide)
      · left
        rw [if_neg hcut]
        show b64count (c0.take (c0.length - m)) % 4 = 0
        have ht : b64count (c0.take (c0.length - m)) = b64count c0 - b64count c0 % 4 :=
          Nat.eq_sub_of_add_eq (hdrop ▸ hsplit.symm)
        rw [ht]
        exact Nat.sub_mod_eq_zero_of_mod_eq (Nat.mod_mod _ _).symm

/-- **Finding (kernel-checked on the model): a short read defeats the alignment.** With the
stream delivering one base64 character at a time, `_align_base64_chunk` hands out a
one-character chunk, which is not decodable on its own. -/
theorem b64_short_chunk_not_aligned :
    (alignB64 [65] 8192 false).1 = [65] ∧ b64count (alignB64 [65] 8192 false).1 % 4 = 1 := by
  decide +kernel

/-! ## truthful size -/

theorem sizeOf_cons_eq_some {b : Bytes} {a : Appended} {t : List Appended} {n : Nat} :
    sizeOf b (a :: t) = some n ↔ (a.compressed = false ∧ a.te = .none) ∧
      ∃ bh m, binaryHeaders a.headers = some bh ∧ sizeOf b t = some m ∧
        2 + b.length + 2 + a.content.length + bh.length + 2 + m = n := by
  rw [sizeOf]
  by_cases hp : a.compressed = false ∧ a.te = .none
  · rw [if_neg (by rw [hp.1, hp.2]; decide)]
    simp only [hp, and_self, true_and]
    constructor
    · intro h
      split at h
      · next bh m hbh hm => exact ⟨bh, m, hbh, hm, Option.some.inj h⟩
      · cases h
    · rintro ⟨bh, m, hbh, hm, rfl⟩
      rw [hbh, hm]
  · rw [if_pos (by
      cases hc : a.compressed
      · exact decide_eq_true fun ht => hp ⟨hc, ht⟩
      · rfl)]
    exact ⟨fun h => (by cases h), fun h => absurd h.1 hp⟩

/-- **A declared size is the number of bytes written.** Whenever `MultipartWriter.size` is not
`None` and `write` succeeds, the body written has exactly that many bytes — for every
boundary, every number of parts, every header block and content. -/
theorem size_truthful (isForm : Bool) (b : Bytes) (parts : List Appended) (n : Nat) (w : Bytes)
    (hs : sizeOf b parts = some n) (hw : writeParts isForm b parts = .ok w) : w.length = n := by
  fun_induction writeParts isForm b parts generalizing n w with
  | case1 =>
    cases hs; cases hw
    simp only [closeDelimiter, dashBoundary, CRLF, List.length_append, List.length_cons, List.length_nil]
  | case2 | case3 => cases hw
  | case4 a t x hx y hy ih =>
    cases hw
    obtain ⟨⟨hc, hte⟩, bh, m, hbh, hm, rfl⟩ := sizeOf_cons_eq_some.mp hs
    -- a plain part is written as delimiter line, header block, content, CRLF
    rw [writePart, hbh] at hx
    split at hx
    · cases hx
    · cases hx
      have hbody : encodeBody a = a.content := by
        rw [encodeBody, hte, pieces, hc]; exact List.append_nil _
      simp only [hbody, dashBoundary, CRLF, ih m y hm hy, List.length_append, List.length_cons,
        List.length_nil]
      omega

/-- **The size follows every later change of a part.** `size` and `write` are functions of the
writer's *current* parts: after the header block of an already appended part is changed
(`part.headers[name] = value`, `set_content_disposition`, …) — with any parts before and after
it, nested writers included as parts — a declared size is again exactly the number of bytes
written. (An implementation that remembers an earlier answer violates this; the harness drives
writer histories with size queries in between and compares every answer with `sizeOf`.) -/
theorem size_truthful_after_header_change (isForm : Bool) (b : Bytes) (pre post : List Appended)
    (a : Appended) (name value : Bytes) (n : Nat) (w : Bytes)
    (hs : sizeOf b (pre ++ { a with headers := setHeader a.headers name value } :: post) = some n)
    (hw : writeParts isForm b (pre ++ { a with headers := setHeader a.headers name value } :: post) = .ok w) :
    w.length = n :=
  size_truthful isForm b _ n w hs hw

/-- a size is declared exactly when no part is compressed or transfer-encoded -/
theorem size_declared_iff_plain (b : Bytes) (parts : List Appended)
    (hh : ∀ a ∈ parts, (binaryHeaders a.headers).isSome = true) :
    (sizeOf b parts).isSome = true ↔ ∀ a ∈ parts, a.compressed = false ∧ a.te = .none := by
  induction parts with
  | nil => simp [sizeOf]
  | cons a t ih =>
    obtain ⟨bh, hbh⟩ := Option.isSome_iff_exists.mp (hh a List.mem_cons_self)
    rw [List.forall_mem_cons, ← ih (fun x hx => hh x (List.mem_cons_of_mem _ hx)),
      Option.isSome_iff_exists, Option.isSome_iff_exists]
    simp only [sizeOf_cons_eq_some, hbh]
    constructor
    · rintro ⟨_, hp, _, m, _, hm, _⟩; exact ⟨hp, m, hm⟩
    · rintro ⟨hp, m, hm⟩; exact ⟨_, hp, bh, m, rfl, hm, rfl⟩

/-! ## file-like parts: every write replays the same bytes -/

/-- `p` serves the bytes of `buf` from position `k`: a restore leads to `k` (the recorded start
position or, while none is recorded, the position the file still stands at), and a size computed
in advance is the right one -/
structure IOPayload.Serves (buf : Bytes) (k : Nat) (p : IOPayload) : Prop where
  sameBuf : p.buf = buf
  restore : p.start.getD p.pos = k
  fixed : ∀ n, p.fixedSize = some n → n = buf.length - k

theorem IOPayload.Serves.size {buf : Bytes} {k : Nat} {p : IOPayload} (h : p.Serves buf k) :
    p.size.1 = buf.length - k ∧ p.size.2.Serves buf k := by
  obtain ⟨pb, pp, ps, pf⟩ := p
  obtain ⟨rfl, rfl, hf⟩ := h
  cases pf with
  | some n => exact ⟨hf n rfl, rfl, rfl, hf⟩
  | none => cases ps <;> exact ⟨rfl, rfl, rfl, hf⟩

theorem IOPayload.Serves.write {buf : Bytes} {k : Nat} {p : IOPayload} (h : p.Serves buf k) :
    p.write.1 = buf.drop k ∧ p.write.2.Serves buf k := by
  obtain ⟨pb, pp, ps, pf⟩ := p
  obtain ⟨rfl, rfl, hf⟩ := h
  cases ps <;> exact ⟨rfl, rfl, rfl, hf⟩

theorem IOPayload.Serves.run {buf : Bytes} {k : Nat} {p : IOPayload} (hp : p.Serves buf k) (ops : List IOOp) :
    ∀ o ∈ p.run ops, o = .size (buf.length - k) ∨ o = .data (buf.drop k) := by
  fun_induction IOPayload.run p ops with
  | case1 => exact fun _ h => nomatch h
  | case2 p ops r ih => exact List.forall_mem_cons.mpr ⟨.inl (congrArg _ hp.size.1), ih hp.size.2⟩
  | case3 p ops r ih => exact List.forall_mem_cons.mpr ⟨.inr (congrArg _ hp.write.1), ih hp.write.2⟩

/-- **A file-like part is written identically every time, and its size is truthful.** For a payload
built from a file-like object positioned at `k` (a file or a `BytesIO`), whatever sequence of
size queries and writes follows (first write, retry, redirect, size asked before or after):
every write emits exactly the bytes from position `k` to the end, and every size query answers
exactly their number. (Restoring to any position other than the recorded one breaks this.) -/
theorem io_payload_replays (buf : Bytes) (k : Nat) (bytesIO : Bool) (ops : List IOOp) :
    ∀ o ∈ (IOPayload.create buf k bytesIO).run ops,
      o = .size (buf.length - k) ∨ o = .data (buf.drop k) := by
  refine IOPayload.Serves.run ⟨rfl, rfl, fun n h => ?_⟩ ops
  cases bytesIO
  · cases h
  · exact (Option.some.inj h).symm

/-! ## termination -/

/-- streams whose pending segments are all non-empty (the transport never delivers `b""`) -/
def Stream.NoEmpty (s : Stream) : Prop := ∀ x ∈ s.pending, x ≠ []

theorem setChunk_fields (s : Stream) (n : Nat) :
    (s.setChunk n).pending = s.pending ∧ (s.setChunk n).buf = s.buf ∧ (s.setChunk n).eof = s.eof
      ∧ (s.setChunk n).eofWithLast = s.eofWithLast := by
  unfold Stream.setChunk; split <;> exact ⟨rfl, rfl, rfl, rfl⟩

theorem fill_of_eof (s : Stream) (h : s.eof = true) : s.fill = s := by
  rw [Stream.fill, h, Bool.or_true, if_pos rfl]

theorem fill_noEmpty (s : Stream) (hs : s.NoEmpty) : s.fill.NoEmpty := by
  fun_cases Stream.fill s
  case case1 | case2 => exact hs
  case case3 => exact fun x hx => nomatch hx
  case case4 _ x r _ heq => exact fun x hx => hs x (heq ▸ List.mem_cons_of_mem _ hx)

theorem read_noEmpty (s : Stream) (n : Nat) (hs : s.NoEmpty) : (s.read n).2.NoEmpty := by
  unfold Stream.read
  split
  · exact hs
  · exact fill_noEmpty _ (fun x hx => hs x ((setChunk_fields s n).1 ▸ hx))

theorem fill_empty_eof (s : Stream) (hs : s.NoEmpty) (h : s.fill.buf = []) : s.fill.eof = true := by
  revert h
  fun_cases Stream.fill s
  case case1 hc =>
    intro h
    rw [h] at hc
    exact hc
  case case2 => exact fun _ => rfl
  case case3 _ x heq => exact fun h => absurd h (hs x (heq ▸ List.mem_cons_self))
  case case4 _ x r _ heq => exact fun h => absurd h (hs x (heq ▸ List.mem_cons_self))

theorem read_empty_atEof (s : Stream) (n : Nat) (hn : 0 < n) (hs : s.NoEmpty)
    (h : (s.read n).1 = []) : (s.read n).2.atEof = true := by
  unfold Stream.read at h ⊢
  rw [if_neg (Nat.ne_of_gt hn)] at h ⊢
  have hb : (s.setChunk n).fill.buf = [] :=
    (List.take_eq_nil_iff.mp h).resolve_left (Nat.ne_of_gt hn)
  have he := fill_empty_eof _ (fun x hx => hs x ((setChunk_fields s n).1 ▸ hx)) hb
  simp only [Stream.atEof, he, hb, List.drop_nil, List.isEmpty_nil, Bool.and_self]

theorem read_atEof (s : Stream) (n : Nat) (h : s.atEof = true) : (s.read n).2.atEof = true := by
  unfold Stream.read
  split
  · exact h
  · obtain ⟨he, hb⟩ : s.eof = true ∧ s.buf = [] := by
      simpa only [Stream.atEof, Bool.and_eq_true, List.isEmpty_iff] using h
    obtain ⟨_, hb', he', _⟩ := setChunk_fields s n
    rw [fill_of_eof _ (he'.trans he)]
    simp only [Stream.atEof, he', he, hb', hb, List.drop_nil, List.isEmpty_nil, Bool.and_self]

/-- **The gathering loop terminates.** The `while len(chunk) < boundary_len` loop of
`_read_chunk_from_stream` never exhausts the fuel `boundary_len + 2` the model gives it: every
iteration either appends at least one byte or meets EOF (which ends the loop, or raises
"Reading after EOF" the third time). The loop cannot spin, whatever the segmentation. -/
theorem gather_terminates (blen size : Nat) (hsz : 0 < size) (fuel : Nat) (chunk : Bytes) (ce : Nat)
    (s : Stream) (hs : s.NoEmpty) (h0 : 0 < fuel) (hf : blen + 1 ≤ fuel + chunk.length) :
    gather blen size fuel chunk ce s ≠ .error .fuel := by
  fun_induction gather blen size fuel chunk ce s with
  | case1 => exact absurd h0 (Nat.lt_irrefl 0)
  | case2 | case3 | case5 => exact fun h => nomatch h
  | case4 f chunk ce s hlt r chunk' ce' h2 hz ih =>
    -- the counter is still 0: the read did not end at EOF, so it brought at least one byte
    have hq : ¬r.2.atEof = true := fun hq => hz (by simp only [ce', if_pos hq]; omega)
    have hpos : 0 < r.1.length := List.length_pos_iff.mpr fun hc => hq (read_empty_atEof s size hsz hs hc)
    exact ih (read_noEmpty s size hs) (by omega) (by simp only [chunk', List.length_append]; omega)

/-- the fuel `_read_chunk_from_stream`'s model passes to the loop is always enough -/
theorem gather_fuel_enough (blen size ce : Nat) (s : Stream) (hsz : 0 < size) (hs : s.NoEmpty) :
    gather blen size (blen + 2) [] ce s ≠ .error .fuel :=
  gather_terminates blen size hsz (blen + 2) [] ce s hs (Nat.succ_pos _) (Nat.le_succ _)

/-- **Bounded re-reading after EOF.** Once the stream is at EOF, every further gathering loop
either raises "Reading after EOF" or increases `_content_eof`; the counter never exceeds 2 in a
successful call. So at most two calls can succeed after the stream has ended. -/
theorem gather_eof_counter (blen size fuel ce : Nat) (chunk : Bytes) (s : Stream)
    (heof : s.atEof = true) (hlt : chunk.length < blen) :
    gather blen size (fuel + 1) chunk ce s = .error .value ∨
    ∃ c s', gather blen size (fuel + 1) chunk ce s = .ok (c, ce + 1, s') ∧ ce + 1 ≤ 2 := by
  rw [gather, if_pos hlt]
  simp only [read_atEof s size heof, if_true]
  by_cases h2 : ce + 1 > 2
  · exact .inl (if_pos h2)
  · exact .inr ⟨_, _, by rw [if_neg h2, if_pos (Nat.succ_pos _)], Nat.le_of_not_lt h2⟩

/- Full statement (NOT proved):

  theorem reader_terminates (cfg script descend) (f : Frame) (s : Stream) (hs : s.NoEmpty) :
      Ev.err .fuel ∉ drive cfg script descend (s.rem.length + 100) [(f, false)] s 0 []

i.e. the whole drive loop (next / read / read_chunk / readline / release over nested readers)
never exhausts a fuel linear in the unread bytes.  What is missing: the measure argument
(unread bytes + `_prev_chunk` + 3 − `_content_eof`, lexicographically) through `Part.readChunk`,
`Part.readLoop`, `Frame.next` and `drive`.  Proved instead: the innermost loop (the only one
that re-reads the stream without handing anything out) cannot spin, and after EOF at most two
more calls succeed; the outer loops are covered by correspondence (`E_FUEL` would be a
mismatch) and by the step counter on the implementation. -/

/-- **Termination, partial.** For every stream without empty segments, every boundary length,
every positive read size and every value of the EOF counter: (1) the gathering loop of
`_read_chunk_from_stream` ends within `boundary_len + 2` iterations; (2) once the stream is at
EOF each further call either raises "Reading after EOF" or bumps `_content_eof`, which a
successful call never leaves above 2. -/
theorem reader_terminates_partial (blen size ce : Nat) (s : Stream) (hsz : 0 < size) (hs : s.NoEmpty) :
    gather blen size (blen + 2) [] ce s ≠ .error .fuel ∧
    (s.atEof = true → 0 < blen →
      gather blen size (blen + 2) [] ce s = .error .value ∨
      ∃ c s', gather blen size (blen + 2) [] ce s = .ok (c, ce + 1, s') ∧ ce + 1 ≤ 2) :=
  ⟨gather_fuel_enough blen size ce s hsz hs,
   fun heof hb => gather_eof_counter blen size (blen + 1) ce [] s heof hb⟩

/-! ## Non-vacuity -/

/-- the hypotheses of `roundtrip_any_chunking` are satisfiable: content `a\r\n-` with boundary
`--b`, first read of 1 byte and fresh chunks of exactly `|sub|` = 5 bytes -/
example : absRead (CRLF ++ [45, 45, 98]) [5, 5, 5, 5, 5, 5, 5, 5]
    (CRLF ++ ([97, 13, 10, 45] ++ (CRLF ++ [45, 45, 98]) ++ [45, 45, 13, 10]).take 1) true
    (([97, 13, 10, 45] ++ (CRLF ++ [45, 45, 98]) ++ [45, 45, 13, 10]).drop 1) [] = some [97, 13, 10, 45] := by
  decide +kernel

example : ∀ j, j ≤ 6 → isPrefix (CRLF ++ [45, 45, 98]) ((CRLF ++ [97, 13, 10, 45]).drop j) = false := by
  decide +kernel

/-- a reachable stream satisfies `NoEmpty` -/
example : ({ buf := [], pending := [[1], [2, 3]] } : Stream).NoEmpty := by
  intro x hx; simp at hx; rcases hx with rfl | rfl <;> simp

/-- `size_truthful` is not vacuous: one plain part gets a size, and it is the length written -/
example : sizeOf [98] [⟨[([65], [66])], [1, 2, 3], false, .none, [], [], []⟩] = some 25 ∧
    (match writeParts false [98] [⟨[([65], [66])], [1, 2, 3], false, .none, [], [], []⟩] with
      | .ok w => w.length | .error _ => 0) = 25 := by
  decide +kernel

end Aio.C19
