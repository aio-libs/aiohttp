import AioProps.C08Lemmas
import AioProps.Basics
/-! C08: every consumer coroutine satisfies `Post` (it moves the state only by primitive
moves and returns / keeps exactly the bytes it took). -/
namespace Aio.C08
open Aio

theorem bufs_of_wait {s : S} (h : (s.bufs.isEmpty && !s.eof) = true) : s.bufs = [] := by
  simp at h; exact h.1

theorem post_readNowait {s : S} (hi : Inv s) (hp : s.parked = none) (n : Option Nat) :
    Post s [] ((readNowait s n).1, .data (readNowait s n).2) :=
  post_data (acc := []) (readNowait_parked hp hi n) (readNowait_reach hi n).1

theorem contRead_post {s : S} (hi : Inv s) (hp : s.parked = none) (hx : NoExcOnRecheck s)
    (n : Nat) (it : Bool) :
    Post s [] (contRead s n it) :=
  ite_elim (Post s []) (fun h => post_park hp (bufs_of_wait h) ⟨.read n, [], it⟩ (fun _ => rfl) hx)
    fun _ => post_readNowait hi hp (some n)

theorem contReadAny_post {s : S} (hi : Inv s) (hp : s.parked = none) (hx : NoExcOnRecheck s)
    (it : Bool) :
    Post s [] (contReadAny s it) :=
  ite_elim (Post s []) (fun h => post_park hp (bufs_of_wait h) ⟨.readAny, [], it⟩ (fun _ => rfl) hx)
    fun _ => post_readNowait hi hp none

theorem contReadAll_post (fuel : Nat) {s : S} (acc : Bytes) (it : Bool) (hi : Inv s) (hp : s.parked = none)
    (hx : NoExcOnRecheck s) : Post s acc (contReadAll fuel s acc it) := by
  induction fuel generalizing s acc with
  | zero => exact post_raise hp acc _
  | succ fuel ih =>
    simp only [contReadAll]
    refine ite_elim (Post s acc) (fun h => post_park hp (bufs_of_wait h) ⟨.readAll, acc, it⟩ nofun hx) fun _ => ?_
    have hr := (readNowait_reach hi none).1
    have hp1 := readNowait_parked hp hi none
    refine ite_elim (Post s acc) (fun hde => ?_) fun _ => ?_
    · have := post_data (acc := acc) hp1 hr
      rwa [List.isEmpty_iff.mp hde, List.append_nil] at this
    · split
      · exact post_of_reach hr (post_raise hp1 _ _)
      · exact post_of_reach hr (ih _ (reach_inv hi hr) hp1 (hx.frame (reach_frame hi hr)))

theorem untilInner_reach (fuel : Nat) {s : S} (sep : Bytes) (m : Nat) (acc : Bytes) (hi : Inv s)
    {r : S × Bytes × Bool × Bool} (e : untilInner fuel s sep m acc = r) :
    ∃ d, Reach s r.1 d ∧ r.2.1 = acc ++ d ∧ Quiet s r.1 ∧
      (s.bufs.length < fuel → r.2.2.1 = false → r.2.2.2 = false → r.1.bufs = []) := by
  subst e
  fun_induction untilInner fuel s sep m acc with
  | case1 s => exact ⟨[], Reach.refl s, (List.append_nil _).symm, Quiet.refl s, fun h => nomatch h⟩
  | case2 _ s _ _ _ hb => exact ⟨[], Reach.refl s, (List.append_nil _).symm, Quiet.refl s, fun _ _ _ => hb⟩
  | case3 _ s _ _ _ _ _ hb _ _ _ e =>
    obtain ⟨hm, hq, -⟩ := rnc_move hi (by rw [hb]; nofun) e
    exact ⟨_, Reach.one hm, rfl, hq, fun _ _ h => nomatch h⟩
  | case4 _ s _ _ _ _ _ hb _ _ _ e =>
    obtain ⟨hm, hq, -⟩ := rnc_move hi (by rw [hb]; nofun) e
    exact ⟨_, Reach.one hm, rfl, hq, fun _ h => nomatch h⟩
  | case5 fuel s _ _ _ _ t hb r s' d e _ _ hr ih =>
    obtain ⟨hm, hq, hi', -, htl⟩ := rnc_move hi (by rw [hb]; nofun) e
    -- no separator in the first block: it was taken whole
    have htl : s'.bufs = t := by
      rw [Option.not_isSome_iff_eq_none.mp hr, Option.map_none] at htl
      rw [htl nofun, hb]; rfl
    obtain ⟨d', hr2, hd, hq2, hfin⟩ := ih hi'
    refine ⟨d ++ d', Reach.step hm hr2, by rw [hd, List.append_assoc], hq.trans hq2, fun hf => hfin ?_⟩
    rw [htl]; rw [hb] at hf; exact Nat.lt_of_succ_lt_succ hf

theorem contReadUntil_post {s : S} (hi : Inv s) (hp : s.parked = none) (hx : NoExcOnRecheck s)
    (sep : Bytes) (m : Nat) (acc : Bytes) (it : Bool) : Post s acc (contReadUntil s sep m acc it) := by
  obtain ⟨d, hr, hd, hq, hfin⟩ := untilInner_reach (s.bufs.length + 1) sep m acc hi rfl
  have hp1 := hq.parked.trans hp
  unfold contReadUntil
  simp only []
  rw [hd]
  refine ite_elim (Post s acc) (fun _ => post_of_reach hr (post_raise hp1 _ _)) fun h1 => ?_
  refine ite_elim (Post s acc) (fun _ => post_data hp1 hr) fun h2 => ?_
  refine ite_elim (Post s acc) (fun _ => post_data hp1 hr) fun _ => ?_
  have hb := hfin (Nat.lt_succ_self _) (by simpa using h2) (by simpa using h1)
  exact post_of_reach hr (post_park hp1 hb ⟨.readUntil sep m, acc ++ d, it⟩ nofun (hx.frame (reach_frame hi hr)))

theorem contReadExactly_post (fuel : Nat) {s : S} (n : Nat) (acc : Bytes) (hi : Inv s) (hp : s.parked = none)
    (hx : NoExcOnRecheck s) : Post s acc (contReadExactly fuel s n acc) := by
  induction fuel generalizing s n acc with
  | zero => exact post_raise hp acc _
  | succ fuel ih =>
    simp only [contReadExactly]
    refine ite_elim (Post s acc)
      (fun h => post_park hp (bufs_of_wait h) ⟨.readExactly n, acc, false⟩ nofun hx) fun _ => ?_
    have hr := (readNowait_reach hi (some n)).1
    have hp1 := readNowait_parked hp hi (some n)
    refine ite_elim (Post s acc)
      (fun hde => post_ret hp1 hr (by rw [List.isEmpty_iff.mp hde, List.append_nil]; rfl) nofun) fun _ => ?_
    refine ite_elim (Post s acc) (fun _ => post_data hp1 hr) fun _ => ?_
    split
    · exact post_of_reach hr (post_raise hp1 _ _)
    · have hm := Move.setChunk (readNowait s (some n)).1 (n - (readNowait s (some n)).2.length)
      have hr2 := Reach.trans hr (Reach.one hm)
      rw [List.append_nil] at hr2
      exact post_of_reach hr2 (ih _ _ (reach_inv hi hr2) ((setChunk_parked _ _).trans hp1)
        (hx.frame (reach_frame hi hr2)))

/-- the split-popping loop of `readchunk`; nothing to pop outside chunked mode -/
def splitLoop (s : S) : S × Option Out :=
  match s.splits with
  | some l => chunkSplits s l
  | none => (s, none)

/-- `readchunk` once the split loop has found no boundary to report -/
def chunkTail (s : S) (it : Bool) : S × Out :=
  if !s.bufs.isEmpty then ((rnc s none).1, .chunk (rnc s none).2 false)
  else if s.eof then (s, .chunk [] false)
  else park s ⟨.readChunk, [], it⟩

theorem contReadChunk_eq {s : S} (h : s.exc = none) (it : Bool) :
    contReadChunk s it =
      match (splitLoop s).2 with
      | some o => ((splitLoop s).1, o)
      | none => chunkTail (splitLoop s).1 it := by
  unfold contReadChunk splitLoop chunkTail
  rw [h]
  rfl

theorem readNowait_cursor {s : S} (hi : Inv s) (k : Nat) (hk : k ≤ s.size) :
    (readNowait s (some k)).1.cursor = s.cursor + k := by
  obtain ⟨hr, -, -, h4⟩ := readNowait_reach hi (some k)
  have ht := reach_taken hi hr
  have hlen : (readNowait s (some k)).2.length = k := by
    refine (h4 k rfl).2.elim id fun h => ?_
    -- the buffer ran out: everything buffered was returned, and that was at least `k` bytes
    have h1 := ht.2
    rw [rest_nil h, List.append_nil] at h1
    have := hi.size_eq
    rw [h1] at this
    have := (h4 k rfl).1
    omega
  rw [(reach_inv hi hr).cursor_eq, ht.1, List.length_append, hi.cursor_eq, hlen]

theorem splitLoop_reach {s : S} (hi : Inv s) :
    ∃ d, Reach s (splitLoop s).1 d ∧ (splitLoop s).1.parked = s.parked ∧
      ((splitLoop s).2 = none → d = []) ∧
      (∀ o, (splitLoop s).2 = some o → o = .chunk d true ∧ (splitLoop s).1.cursor ∈ s.bounds) := by
  unfold splitLoop
  split
  · rename_i l hs
    induction l generalizing s with
    | nil => exact ⟨[], Reach.one (Move.setSplits s [] [] hs (List.Sublist.refl _)), rfl, fun _ => rfl, nofun⟩
    | cons p t ih =>
      have hm := Move.setSplits s (p :: t) t hs (List.sublist_cons_self p t)
      have hi1 := move_inv hi hm
      have hpb : p ∈ s.bounds := hi.inb _ hs p List.mem_cons_self
      simp only [chunkSplits]
      by_cases hpc : p = s.cursor
      · rw [if_pos hpc]
        exact ⟨[], Reach.one hm, rfl, fun _ => rfl, fun o h => ⟨(Option.some.inj h).symm, hpc ▸ hpb⟩⟩
      rw [if_neg hpc]
      by_cases hgt : p > s.cursor
      · rw [if_pos hgt]
        obtain ⟨hr, hq, -, -⟩ := readNowait_reach hi1 (some (p - s.cursor))
        have hc := readNowait_cursor hi1 (p - s.cursor) (by
          have := cursor_add_size hi
          have := (hi.range _ hs p List.mem_cons_self).2
          show p - s.cursor ≤ s.size; omega)
        refine ⟨_, Reach.step hm hr, hq.parked, nofun, fun o h => ⟨(Option.some.inj h).symm, ?_⟩⟩
        rw [hc]
        show s.cursor + (p - s.cursor) ∈ s.bounds
        rw [Nat.add_sub_cancel' (Nat.le_of_lt hgt)]; exact hpb
      rw [if_neg hgt]
      obtain ⟨d, hr, h1, h2, h3⟩ := ih hi1 rfl
      exact ⟨_, Reach.step hm hr, h1, h2, h3⟩
  · exact ⟨[], Reach.refl s, rfl, fun _ => rfl, nofun⟩

theorem chunkTail_post {s : S} (hp : s.parked = none) (hx : NoExcOnRecheck s)
    (it : Bool) : Post s [] (chunkTail s it) := by
  refine ite_elim (Post s []) (fun hb => ?_) fun hb => ?_
  · have hne : s.bufs ≠ [] := by intro h; simp [h] at hb
    exact post_ret ((quiet_rnc s none).parked.trans hp) (Reach.one (Move.rnc s none hne)) rfl nofun
  · exact ite_elim (Post s []) (fun _ => post_ret hp (Reach.refl s) rfl nofun)
      fun _ => post_park hp (by simpa using hb) ⟨.readChunk, [], it⟩ (fun _ => rfl) hx

theorem contReadChunk_post {s : S} (hi : Inv s) (hp : s.parked = none) (it : Bool) :
    Post s [] (contReadChunk s it) := by
  cases hexc : s.exc with
  | some e => unfold contReadChunk; rw [hexc]; exact post_raise hp _ _
  | none =>
    rw [contReadChunk_eq hexc]
    obtain ⟨d, hr, hp1, hn, hsome⟩ := splitLoop_reach hi
    rw [hp] at hp1
    split
    · rename_i o ho
      cases (hsome o ho).1
      exact post_ret hp1 hr rfl nofun
    · rename_i ho
      cases hn ho
      exact post_of_reach hr (chunkTail_post hp1 (NoExcOnRecheck.frame (fun _ => hexc) (reach_frame hi hr)) it)

theorem post_setChunk {s : S} {acc : Bytes} {r : S × Out} (hi : Inv s) (hp : s.parked = none) (n : Nat)
    (h : Inv (setChunk s n) → (setChunk s n).parked = none → Post (setChunk s n) acc r) : Post s acc r :=
  have hm := Move.setChunk s n
  post_of_reach (Reach.one hm) (by
    rw [List.append_nil]; exact h (move_inv hi hm) ((setChunk_parked s n).trans hp))

theorem NoExcOnRecheck.setChunk {s : S} (hx : NoExcOnRecheck s) (n : Nat) : NoExcOnRecheck (setChunk s n) :=
  hx.frame (move_frame (.setChunk s n))

theorem startRead_post {s : S} (hi : Inv s) (hp : s.parked = none) (n : Option Nat) (it : Bool) :
    Post s [] (startRead s n it) := by
  unfold startRead
  split
  · exact post_raise hp _ _
  · rename_i hexc
    split
    · exact post_ret hp (Reach.refl s) rfl nofun
    · exact post_setChunk hi hp _ fun hi hp => contRead_post hi hp (NoExcOnRecheck.setChunk (fun _ => hexc) _) _ it
    · exact post_setChunk hi hp _ fun hi hp => contReadAll_post _ [] it hi hp (NoExcOnRecheck.setChunk (fun _ => hexc) _)

theorem startReadAny_post {s : S} (hi : Inv s) (hp : s.parked = none) (it : Bool) :
    Post s [] (startReadAny s it) := by
  unfold startReadAny
  split
  · exact post_raise hp _ _
  · rename_i hexc
    exact contReadAny_post hi hp (fun _ => hexc) it

theorem startReadUntil_post {s : S} (hi : Inv s) (hp : s.parked = none) (sep : Bytes) (m : Nat) (it : Bool) :
    Post s [] (startReadUntil s sep m it) := by
  unfold startReadUntil
  split
  · exact post_ret hp (Reach.refl s) rfl nofun
  · split
    · exact post_raise hp _ _
    · rename_i hexc
      exact contReadUntil_post hi hp (fun _ => hexc) sep _ [] it

theorem startReadExactly_post {s : S} (hi : Inv s) (hp : s.parked = none) (n : Nat) :
    Post s [] (startReadExactly s n) := by
  unfold startReadExactly
  split
  · exact post_raise hp _ _
  · rename_i hexc
    split
    · exact post_ret hp (Reach.refl s) rfl nofun
    · exact post_setChunk hi hp _ fun hi hp => contReadExactly_post _ n [] hi hp (NoExcOnRecheck.setChunk (fun _ => hexc) _)

theorem resume_post {s : S} (hi : Inv s) (p : Pend) (hw : s.waiter = false) (hpk : s.parked = some p)
    (ha : AccOk s) : Post s p.acc (resume s p) := by
  have hm := Move.unpark s hw
  have hi1 := move_inv hi hm
  have hfp : s.fut ≠ .pending := fun h => by have := hi.fut_pending h; rw [hw] at this; cases this
  refine post_of_reach (Reach.one hm) ?_
  rw [List.append_nil]
  unfold resume
  simp only []
  split
  · rename_i h; exact absurd h hfp
  · exact post_raise rfl _ _
  · split
    · exact post_raise rfl _ _
    rename_i hnone
    have hx : NoExcOnRecheck { s with parked := none } := by
      intro (hr : s.recheck = true)
      simpa [hr] using hnone
    have h0 : simpleKind p.kind = true → p.acc = [] := ha p hpk
    split <;> rename_i hk <;> rw [hk] at h0
    · rw [h0 rfl]; exact contRead_post hi1 rfl hx _ p.iter
    · rw [h0 rfl]; exact contReadAny_post hi1 rfl hx p.iter
    · exact contReadAll_post _ p.acc p.iter hi1 rfl hx
    · exact contReadUntil_post hi1 rfl hx _ _ p.acc p.iter
    · exact contReadExactly_post _ _ p.acc hi1 rfl hx
    · rw [h0 rfl]; exact contReadChunk_post hi1 rfl p.iter

end Aio.C08
