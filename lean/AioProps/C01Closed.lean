import AioProps.HttpLemmas
/-!
# C01: nothing is read as a message once the stream position is lost

Two situations leave the parser in a state in which bytes that arrive later must not be given an
interpretation: a message that closes the connection (`Connection: close`, HTTP/1.0 without
keep-alive) has been delivered, or a body was abandoned with an error that `feed_data` does not
re-raise (too many trailers, an over-long chunk-size / trailer line, …) — there the rest of the read
is dropped and the position in the stream is lost.  Both set `_should_close`.

* `closed_stepOnce`: in such a state (`shouldClose`, no body open, no header lines collected, not
  upgraded) one loop iteration either skips an empty line (state unchanged, input shorter) or stops
  without any event.
* `closed_feedLoop`: so the loop emits nothing, and the state stays closed unless the read raised.
* `closed_emits_nothing`: every read, of any bytes, emits no event at all — in particular no
  message.
* `swallowed_error_closes`: the state in which a swallowed body error leaves the parser is closed.
  With `closed_emits_nothing`: after such an error no later read is ever read as a request.
-/
namespace Aio.Http

/-- the parser holds no partial message and must not start another one -/
def Closed (st : St) : Prop :=
  st.shouldClose = true ∧ st.payload = none ∧ st.lines = [] ∧ st.upgraded = false

theorem closed_stepOnce (cfg : Cfg) (urlOk : Bool → Bytes → Bool) (st : St) (d : Bytes) (h : Closed st) :
    (∃ d', stepOnce cfg urlOk st d = .cont st d' []) ∨
    (∃ o, stepOnce cfg urlOk st d = .stop o ∧ o.evs = [] ∧ (o.err = none → Closed o.st)) := by
  obtain ⟨hsc, hp, hl, hu⟩ := h
  have hs := stepOnce_spec cfg urlOk st d
  generalize stepOnce cfg urlOk st d = s at hs
  cases hs with
  | needs hp' => rw [hp] at hp'; cases hp'
  | complete hp' => rw [hp] at hp'; cases hp'
  | raised hp' => rw [hp] at hp'; cases hp'
  | swallowed hp' => rw [hp] at hp'; cases hp'
  | upgraded _ hu' => rw [hu] at hu'; cases hu'
  | partLine =>
    rcases partialLine_cases cfg st d [] with ⟨e, hpl⟩ | ⟨hpl, _⟩ <;> rw [hpl]
    · exact .inr ⟨_, rfl, rfl, nofun⟩
    · exact .inr ⟨_, rfl, rfl, fun _ => ⟨hsc, hp, hl, hu⟩⟩
  | blank => exact .inl ⟨_, rfl⟩
  | refused => exact .inr ⟨_, rfl, rfl, nofun⟩
  | badLine _ _ hsc' => rw [hsc] at hsc'; cases hsc'
  | line _ _ hsc' => rw [hsc] at hsc'; cases hsc'
  | badHead _ _ hsc' => rw [hsc] at hsc'; cases hsc'
  | head _ _ hsc' => rw [hsc] at hsc'; cases hsc'

/-- **Closed means closed.** From a closed state the loop emits nothing, whatever the bytes. -/
theorem closed_feedLoop (cfg : Cfg) (urlOk : Bool → Bytes → Bool) :
    ∀ (f : Nat) (st : St) (d : Bytes) (acc : List Ev), Closed st →
      (feedLoop cfg urlOk f st d acc).evs = acc ∧
      ((feedLoop cfg urlOk f st d acc).err = none → Closed { (feedLoop cfg urlOk f st d acc).st with tail := [] }) := by
  intro f
  induction f with
  | zero => exact fun st d acc h => ⟨rfl, fun _ => h⟩
  | succ f ih =>
    intro st d acc h
    by_cases hd : d = []
    · subst hd
      rw [feedLoop_nil]
      exact ⟨rfl, fun _ => h⟩
    · rw [feedLoop_succ cfg urlOk f st d acc hd]
      rcases closed_stepOnce cfg urlOk st d h with ⟨d', hs⟩ | ⟨o, hs, hev, hst⟩
      · simp only [hs, List.append_nil]
        exact ite_elim (fun o : FeedOut => o.evs = acc ∧ (o.err = none → Closed { o.st with tail := [] }))
          (fun _ => ih st d' acc h) fun _ => ⟨rfl, nofun⟩
      · simp only [hs]
        exact ⟨by rw [hev, List.append_nil], hst⟩

/-- **No message after the position is lost.** A read of any bytes by a closed parser (nothing buffered)
emits no event: no request, no body data, no completion. -/
theorem closed_emits_nothing (cfg : Cfg) (urlOk : Bool → Bytes → Bool) (st : St) (d : Bytes)
    (h : Closed st) : (feed cfg urlOk st d).evs = [] := by
  unfold feed
  split
  · rfl
  · exact (closed_feedLoop cfg urlOk _ { st with tail := [] } _ [] h).1

/-- the state a swallowed body error leaves behind is closed (unless the body belonged to an Upgrade
request, in which case the rest of the connection is handed to the caller as raw bytes) -/
theorem swallowed_error_closes (cfg : Cfg) (urlOk : Bool → Bytes → Bool) (st : St) (p : PState) (d : Bytes)
    (e : Err) (ev : List Ev) (hp : st.payload = some p) (hl : st.lines = []) (hu : st.upgraded = false)
    (hpu : st.pendingUpgrade = false) (hf : payloadFeed cfg p d = (.err e false, ev)) :
    ∃ o, stepOnce cfg urlOk st d = .stop o ∧ o.err = none ∧ Closed o.st := by
  rw [stepOnce_payload cfg urlOk st p d hp, hf]
  refine ⟨_, rfl, rfl, ?_⟩
  simp only [afterBody, hpu]
  exact ⟨rfl, rfl, hl, hu⟩

/-- non-vacuity: the stream of finding F32 (`max_headers` = 4 head lines, chunked body, `GE` of the next
request in the same read) — the first read ends without an error, the next read `T /next …` raises and
delivers nothing -/
example :
    let cfg : Cfg := { maxHeaders := 4 }
    let r1 := feed cfg (fun _ _ => true) {} (ofNats
      [80,79,83,84,32,47,99,32,72,84,84,80,47,49,46,49,13,10,72,111,115,116,58,32,104,13,10,
       84,114,97,110,115,102,101,114,45,69,110,99,111,100,105,110,103,58,32,99,104,117,110,107,101,100,13,10,13,10,
       51,13,10,97,98,99,13,10,48,13,10,13,10,71,69])
    let r2 := feed cfg (fun _ _ => true) r1.st (ofNats [84,32,47,110,32,72,84,84,80,47,49,46,49,13,10,13,10])
    r1.err.isNone = true ∧ r1.st.shouldClose = true ∧ r2.evs.length = 0 ∧ r2.err.isSome = true := by
  decide +kernel

end Aio.Http
