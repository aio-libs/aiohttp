import AioModel.C20
/-!
Lemmas for the C20 lifecycle theorems (`AioProps/C20.lean`): the log of a signal, of the runner and of a
whole life, in terms of the applications reached (`reached`, `cleaned`) and their `_exits` lists.  The three
definitions the theorems' statements use (`okPrefix`, `reached`, `cleaned`) come first.
-/
namespace Aio.C20

/-- number of leading contexts whose start-up code succeeds -/
def okPrefix : List Ctx → Nat
  | [] => 0
  | c :: cs => if c.enter = .ok then okPrefix cs + 1 else 0

/-- the applications whose context callback is called by the send -/
def reached (tbl : List AppDef) (s : Sig) : Exits → List Step → List Nat
  | _, [] => []
  | X, st :: rest =>
    groupsOf [st] ++
      if (runStep tbl s X st).err = none then reached tbl s (runStep tbl s X st).X rest else []

/-- the applications whose `_on_cleanup` is called by `runner.cleanup()`: none when an
`on_shutdown` handler raises, only the root when the application was never frozen -/
def cleaned (tbl : List AppDef) (r : Runner) : List Nat :=
  if r.server = true ∧ (send tbl .shutdown (rootChain tbl .shutdown) r.X).err ≠ none then []
  else if r.frozen then reached tbl .cleanup r.X (rootChain tbl .cleanup) else [0]

@[simp] theorem enteredOf_nil : enteredOf [] = [] := rfl
@[simp] theorem exitsOf_nil : exitsOf [] = [] := rfl
@[simp] theorem enteredOf_append (l₁ l₂ : List Ev) :
    enteredOf (l₁ ++ l₂) = enteredOf l₁ ++ enteredOf l₂ := by simp [enteredOf]
@[simp] theorem exitsOf_append (l₁ l₂ : List Ev) :
    exitsOf (l₁ ++ l₂) = exitsOf l₁ ++ exitsOf l₂ := by simp [exitsOf]
@[simp] theorem enteredOf_cons (e : Ev) (l : List Ev) :
    enteredOf (e :: l) = (match e with | .entered a i => [(a, i)] | _ => []) ++ enteredOf l := by
  cases e <;> rfl
@[simp] theorem exitsOf_cons (e : Ev) (l : List Ev) :
    exitsOf (e :: l) = (match e with | .exit a i => [(a, i)] | _ => []) ++ exitsOf l := by
  cases e <;> rfl

@[simp] theorem enteredOf_handlerEvs (s : Sig) (id : Nat) (f : Fail) : enteredOf (handlerEvs s id f) = [] := by
  unfold handlerEvs; split <;> rfl
@[simp] theorem exitsOf_handlerEvs (s : Sig) (id : Nat) (f : Fail) : exitsOf (handlerEvs s id f) = [] := by
  unfold handlerEvs; split <;> rfl

@[simp] theorem groupsOf_nil : groupsOf [] = [] := rfl
@[simp] theorem groupsOf_cons_grp (a : Nat) (l : List Step) :
    groupsOf (.grp a :: l) = a :: groupsOf l := rfl
@[simp] theorem groupsOf_cons_h (i : Nat) (f : Fail) (l : List Step) :
    groupsOf (.h i f :: l) = groupsOf l := rfl

theorem groupsOf_cons (st : Step) (l : List Step) : groupsOf (st :: l) = groupsOf [st] ++ groupsOf l := by
  cases st <;> rfl

theorem wellFormed_iff (tbl : List AppDef) : wellFormed tbl = true ↔
    (groupsOf (rootChain tbl .startup)).Nodup ∧ (groupsOf (rootChain tbl .cleanup)).Nodup := by
  simp [wellFormed]

theorem nestedFrom_append (st : Option (Nat × Nat)) (l₁ l₂ : List Ev)
    (h : nestedFrom st l₁ = true) : nestedFrom st (l₁ ++ l₂) = nestedFrom none l₂ := by
  fun_induction nestedFrom st l₁ with
  | case1 st => cases st <;> first | rfl | cases h
  | case2 _ _ _ ih => exact ih h
  | case3 _ _ _ _ ih =>
    rw [Bool.and_eq_true] at h
    simp only [List.cons_append, nestedFrom, h.1, ih h.2, Bool.true_and]
  | case4 | case5 => cases h
  | case6 _ _ h1 h2 ih =>
    rw [List.cons_append, nestedFrom.eq_6 _ _ h1 h2]
    exact ih h

theorem nested_append (l₁ l₂ : List Ev) (h₁ : nestedFrom none l₁ = true) (h₂ : nestedFrom none l₂ = true) :
    nestedFrom none (l₁ ++ l₂) = true := by
  rw [nestedFrom_append none l₁ l₂ h₁]; exact h₂

/-! ## CleanupContext._on_startup -/

theorem okPrefix_le (cs : List Ctx) : okPrefix cs ≤ cs.length := by
  induction cs with
  | nil => exact Nat.le_refl 0
  | cons c cs ih => simp only [okPrefix]; split <;> simp <;> omega

theorem enterAll_entered (a : Nat) (cs : List Ctx) (i : Nat) :
    (enterAll a i cs).entered = List.range' i (okPrefix cs) := by
  induction cs generalizing i with
  | nil => rfl
  | cons c cs ih => simp only [enterAll, okPrefix]; split <;> simp [ih, List.range'_succ]

theorem enterAll_log (a : Nat) (cs : List Ctx) (i : Nat) :
    enteredOf (enterAll a i cs).ev = (enterAll a i cs).entered.map (fun j => (a, j)) ∧
      exitsOf (enterAll a i cs).ev = [] ∧ nestedFrom none (enterAll a i cs).ev = true := by
  induction cs generalizing i with
  | nil => exact ⟨rfl, rfl, rfl⟩
  | cons c cs ih => simp only [enterAll]; split <;> simp [ih, nestedFrom]

theorem enterAll_err (a : Nat) (cs : List Ctx) (i : Nat) :
    (enterAll a i cs).err = none ↔ okPrefix cs = cs.length := by
  induction cs generalizing i with
  | nil => simp [enterAll, okPrefix]
  | cons c cs ih => simp only [enterAll, okPrefix]; split <;> simp [ih]

/-! ## CleanupContext._on_cleanup -/

theorem exitAll_log (a : Nat) (cs : List Ctx) (l : List Nat) :
    exitsOf (exitAll a cs l).1 = l.map (fun j => (a, j)) ∧ enteredOf (exitAll a cs l).1 = [] ∧
      nestedFrom none (exitAll a cs l).1 = true := by
  induction l with
  | nil => exact ⟨rfl, rfl, rfl⟩
  | cons i l ih => simp [exitAll, ih, nestedFrom]

theorem groupCleanup_log (a : Nat) (cs : List Ctx) (x : List Nat) :
    exitsOf (groupCleanup a cs x).1 = x.reverse.map (fun j => (a, j)) ∧
      enteredOf (groupCleanup a cs x).1 = [] ∧ nestedFrom none (groupCleanup a cs x).1 = true := by
  simp [groupCleanup, exitAll_log]

theorem exitAll_errs (a : Nat) (cs : List Ctx) (l : List Nat) :
    (exitAll a cs l).2 = [] ↔ ∀ i ∈ l, exitFail cs i = .ok := by
  induction l with
  | nil => simp [exitAll]
  | cons i l ih => simp only [exitAll]; split <;> simp [*]

theorem raiseCollected_none (os : List Origin) : raiseCollected os = none ↔ os = [] := by
  cases os with
  | nil => simp [raiseCollected]
  | cons o t => cases t <;> simp [raiseCollected]

/-! ## Signal.send -/

/-- induction over `send`: what every step's log has and `++` keeps, the whole log has -/
theorem send_log (P : List Ev → Prop) (h0 : P []) (happ : ∀ l₁ l₂, P l₁ → P l₂ → P (l₁ ++ l₂))
    (tbl : List AppDef) (s : Sig) (hstep : ∀ X st, P (runStep tbl s X st).ev) (l : List Step)
    (X : Exits) : P (send tbl s l X).ev := by
  fun_induction send tbl s l X with
  | case1 => exact h0
  | case2 => exact hstep _ _
  | case3 _ _ _ _ _ _ ih => exact happ _ _ (hstep _ _) ih

theorem runStep_log (tbl : List AppDef) (s : Sig) (X : Exits) (st : Step) :
    nestedFrom none (runStep tbl s X st).ev = true ∧
    (s ≠ .cleanup → exitsOf (runStep tbl s X st).ev = []) ∧
    (s ≠ .startup → enteredOf (runStep tbl s X st).ev = [] ∧ (runStep tbl s X st).X = X) := by
  cases st with
  | h id f =>
    exact ⟨by simp only [runStep, handlerEvs]; split <;> rfl, fun _ => exitsOf_handlerEvs s id f,
      fun _ => ⟨enteredOf_handlerEvs s id f, rfl⟩⟩
  | grp a =>
    cases s with
    | startup => exact ⟨(enterAll_log a _ 0).2.2, fun _ => (enterAll_log a _ 0).2.1, fun h => absurd rfl h⟩
    | shutdown => exact ⟨rfl, fun _ => rfl, fun _ => ⟨rfl, rfl⟩⟩
    | cleanup => exact ⟨(groupCleanup_log a _ _).2.2, fun h => absurd rfl h, fun _ => ⟨(groupCleanup_log a _ _).2.1, rfl⟩⟩

theorem send_nested (tbl : List AppDef) (s : Sig) (l : List Step) (X : Exits) :
    nestedFrom none (send tbl s l X).ev = true :=
  send_log (nestedFrom none · = true) rfl nested_append tbl s (fun X st => (runStep_log tbl s X st).1) l X

theorem send_exits (tbl : List AppDef) (s : Sig) (hs : s ≠ .cleanup) (l : List Step) (X : Exits) :
    exitsOf (send tbl s l X).ev = [] :=
  send_log (exitsOf · = []) rfl (fun _ _ h₁ h₂ => by simp [h₁, h₂]) tbl s
    (fun X st => (runStep_log tbl s X st).2.1 hs) l X

theorem send_entered (tbl : List AppDef) (s : Sig) (hs : s ≠ .startup) (l : List Step) (X : Exits) :
    enteredOf (send tbl s l X).ev = [] ∧ (send tbl s l X).X = X := by
  refine ⟨send_log (enteredOf · = []) rfl (fun _ _ h₁ h₂ => by simp [h₁, h₂]) tbl s
    (fun X st => ((runStep_log tbl s X st).2.2 hs).1) l X, ?_⟩
  fun_induction send tbl s l X with
  | case1 => rfl
  | case2 st _ X => exact ((runStep_log tbl s X st).2.2 hs).2
  | case3 st _ X _ _ _ ih => exact ih.trans ((runStep_log tbl s X st).2.2 hs).2

theorem send_handlers_ok (tbl : List AppDef) (s : Sig) (l : List Step) (X : Exits)
    (h : ∀ st ∈ l, ∃ id, st = Step.h id .ok) : (send tbl s l X).err = none := by
  induction l generalizing X with
  | nil => rfl
  | cons st l ih =>
    obtain ⟨id, rfl⟩ := h st (by simp)
    simp [send, runStep, ih _ (fun st' hst' => h st' (by simp [hst']))]

theorem reached_sublist (tbl : List AppDef) (s : Sig) (X : Exits) (l : List Step) :
    (reached tbl s X l).Sublist (groupsOf l) := by
  induction l generalizing X with
  | nil => exact .slnil
  | cons st l ih =>
    rw [groupsOf_cons, reached]
    split
    · exact (List.Sublist.refl _).append (ih _)
    · exact (List.Sublist.refl _).append (List.nil_sublist _)

theorem reached_of_ok (tbl : List AppDef) (s : Sig) (X : Exits) (l : List Step)
    (h : (send tbl s l X).err = none) : reached tbl s X l = groupsOf l := by
  induction l generalizing X with
  | nil => rfl
  | cons st l ih =>
    rw [groupsOf_cons, reached]
    simp only [send] at h
    split at h
    · cases h
    · next he => rw [if_pos he, ih _ h]

theorem reverse_nodup (l : List Nat) (h : l.Nodup) : l.reverse.Nodup :=
  List.pairwise_reverse.mpr (h.imp fun hab e => hab e.symm)

theorem mem_flatMap_pairs (gs : List Nat) (f : Nat → List Nat) (p : Nat × Nat) :
    p ∈ gs.flatMap (fun g => (f g).map (fun j => (g, j))) ↔ p.1 ∈ gs ∧ p.2 ∈ f p.1 := by
  simp only [List.mem_flatMap, List.mem_map]
  constructor
  · rintro ⟨g, hg, j, hj, rfl⟩; exact ⟨hg, hj⟩
  · exact fun ⟨hg, hj⟩ => ⟨p.1, hg, p.2, hj, rfl⟩

theorem flatMap_pairs_nodup (gs : List Nat) (f : Nat → List Nat) (hg : gs.Nodup)
    (hf : ∀ g, (f g).Nodup) : (gs.flatMap (fun g => (f g).map (fun j => (g, j)))).Nodup := by
  induction gs with
  | nil => exact .nil
  | cons g gs ih =>
    rw [List.nodup_cons] at hg
    rw [List.flatMap_cons, List.nodup_append]
    refine ⟨List.Pairwise.map _ (fun _ _ hab e => hab (Prod.mk.inj e).2) (hf g), ih hg.2, ?_⟩
    rintro p hp q hq rfl
    obtain ⟨j, _, rfl⟩ := List.mem_map.mp hp
    exact hg.1 ((mem_flatMap_pairs gs f _).mp hq).1

theorem filter_flatMap_pairs (gs : List Nat) (f : Nat → List Nat) (a : Nat) (hg : gs.Nodup) :
    (gs.flatMap (fun g => (f g).map (fun j => (g, j)))).filter (fun p => p.1 = a) =
      if a ∈ gs then (f a).map (fun j => (a, j)) else [] := by
  induction gs with
  | nil => rfl
  | cons g gs ih =>
    rw [List.nodup_cons] at hg
    rw [List.flatMap_cons, List.filter_append, ih hg.2, List.filter_map]
    by_cases hga : g = a
    · subst hga
      have : (f g).filter (fun _ => true) = f g := List.filter_eq_self.mpr fun _ _ => rfl
      simp [hg.1, Function.comp_def, this]
    · simp [hga, Ne.symm hga, Function.comp_def]

theorem send_cleanup_exits (tbl : List AppDef) (l : List Step) (X : Exits) :
    exitsOf (send tbl .cleanup l X).ev =
      (reached tbl .cleanup X l).flatMap (fun g => (X g).reverse.map (fun j => (g, j))) := by
  induction l with
  | nil => rfl
  | cons st l ih =>
    have hX := ((runStep_log tbl .cleanup X st).2.2 (by simp)).2
    have hst : exitsOf (runStep tbl .cleanup X st).ev =
        (groupsOf [st]).flatMap (fun g => (X g).reverse.map (fun j => (g, j))) := by
      cases st with
      | h id f => exact exitsOf_handlerEvs _ id f
      | grp a => simpa [runStep] using (groupCleanup_log a (ctxsOf tbl a) (X a)).1
    simp only [send, reached, hX]
    split
    · next he => simp [hst, he]
    · next he => simp [hst, he, ih]

theorem send_startup_entered (tbl : List AppDef) (l : List Step) (X : Exits) :
    enteredOf (send tbl .startup l X).ev = (reached tbl .startup X l).flatMap
      (fun g => (enterAll g 0 (ctxsOf tbl g)).entered.map (fun j => (g, j))) := by
  induction l generalizing X with
  | nil => rfl
  | cons st l ih =>
    have hst : enteredOf (runStep tbl .startup X st).ev = (groupsOf [st]).flatMap
        (fun g => (enterAll g 0 (ctxsOf tbl g)).entered.map (fun j => (g, j))) := by
      cases st with
      | h id f => exact enteredOf_handlerEvs _ id f
      | grp a => simpa [runStep] using (enterAll_log a (ctxsOf tbl a) 0).1
    simp only [send, reached]
    split
    · next he => simp [hst, he]
    · next he => simp [hst, he, ih]

theorem send_startup_X (tbl : List AppDef) (l : List Step) (X : Exits) (hnd : (groupsOf l).Nodup)
    (a : Nat) : (send tbl .startup l X).X a =
      if a ∈ reached tbl .startup X l then X a ++ (enterAll a 0 (ctxsOf tbl a)).entered else X a := by
  induction l generalizing X with
  | nil => rfl
  | cons st l ih =>
    cases st with
    | h n f =>
      simp only [send, reached, runStep]
      split
      · next he => simp [he]
      · next he => simpa [he] using ih X hnd
    | grp g =>
      rw [groupsOf_cons_grp, List.nodup_cons] at hnd
      have hg : ∀ X1, g ∉ reached tbl .startup X1 l := fun X1 h => hnd.1 ((reached_sublist _ _ _ _).subset h)
      simp only [send, reached, runStep]
      split
      · next he => by_cases hag : a = g <;> simp [he, Exits.set, hag]
      · next he =>
        rw [ih _ hnd.2]
        by_cases hag : a = g
        · subst hag; simp [he, hg, Exits.set]
        · simp [he, Exits.set, hag]

theorem lifeLog_runner (tbl : List AppDef) :
    lifeLog tbl .runner =
      (Runner.step tbl {} .setup).ev ++ (Runner.step tbl (Runner.step tbl {} .setup).r .cleanup).ev := by
  simp [lifeLog, runRunner]

theorem lifeLog_runApp (tbl : List AppDef) :
    lifeLog tbl .runApp =
      if (Runner.step tbl {} .setup).err = none then lifeLog tbl .runner
      else (Runner.step tbl {} .setup).ev := by
  rw [lifeLog_runner]
  simp only [lifeLog, runApp]
  cases (Runner.step tbl {} .setup).err <;> rfl

theorem lifeLog_cases (P : List Ev → Prop) (tbl : List AppDef) (entry : Entry)
    (hr : P (lifeLog tbl .runner)) (hs : P (Runner.step tbl {} .setup).ev) : P (lifeLog tbl entry) := by
  cases entry with
  | runner => exact hr
  | runApp => rw [lifeLog_runApp]; split <;> assumption

theorem lifeLog_eq_runner (tbl : List AppDef) (entry : Entry)
    (h : (Runner.step tbl {} .setup).err = none) : lifeLog tbl entry = lifeLog tbl .runner := by
  cases entry with
  | runner => rfl
  | runApp => rw [lifeLog_runApp, if_pos h]

theorem setup_out (tbl : List AppDef) (r : Runner) :
    (Runner.step tbl r .setup).ev = (send tbl .startup (rootChain tbl .startup) r.X).ev ∧
    (Runner.step tbl r .setup).r.X = (send tbl .startup (rootChain tbl .startup) r.X).X ∧
    (Runner.step tbl r .setup).err = (send tbl .startup (rootChain tbl .startup) r.X).err ∧
    ((Runner.step tbl r .setup).err = none → (Runner.step tbl r .setup).r.frozen = true) := by
  simp only [Runner.step]
  split
  · next he => exact ⟨rfl, rfl, he.symm, fun h => nomatch h⟩
  · next he => exact ⟨rfl, rfl, he.symm, fun _ => rfl⟩

theorem cleanup_log (tbl : List AppDef) (r : Runner) :
    enteredOf (Runner.step tbl r .cleanup).ev = [] ∧
    exitsOf (Runner.step tbl r .cleanup).ev =
      (cleaned tbl r).flatMap (fun g => (r.X g).reverse.map (fun j => (g, j))) ∧
    ((Runner.step tbl r .cleanup).err = none → r.frozen = true →
      cleaned tbl r = groupsOf (rootChain tbl .cleanup)) ∧
    nestedFrom none (Runner.step tbl r .cleanup).ev = true := by
  have hsd := send_entered tbl .shutdown (by simp) (rootChain tbl .shutdown) r.X
  have hsx := send_exits tbl .shutdown (by simp) (rootChain tbl .shutdown) r.X
  have hsn := send_nested tbl .shutdown (rootChain tbl .shutdown) r.X
  have hcl := send_entered tbl .cleanup (by simp) (rootChain tbl .cleanup) r.X
  have hcx := send_cleanup_exits tbl (rootChain tbl .cleanup) r.X
  have hcn := send_nested tbl .cleanup (rootChain tbl .cleanup) r.X
  have hg := groupCleanup_log 0 (ctxsOf tbl 0) (r.X 0)
  have hok := reached_of_ok tbl .cleanup r.X (rootChain tbl .cleanup)
  simp only [Runner.step, cleaned]
  cases r.server <;> cases r.frozen <;> simp only [Bool.false_eq_true, if_false, if_true, false_and, true_and]
  · split <;> simp [hg]
  · split
    · simp [hcl, hcx, hcn]
    · next he => simp [hcl, hcx, hcn, hok he]
  · split
    · next he => simp [he, hsd, hsx, hsn]
    · next he => split <;> simp [he, hsd, hsx, hg, nestedFrom_append _ _ _ hsn]
  · split
    · next he => simp [he, hsd, hsx, hsn]
    · next he =>
      split
      · simp [he, hsd, hsx, hcl, hcx, nestedFrom_append _ _ _ hsn, hcn]
      · next he' => simp [he, hsd, hsx, hcl, hcx, nestedFrom_append _ _ _ hsn, hcn, hok he']

/-- A whole life through `AppRunner` in terms of the `_exits` lists `X` after `runner.setup()`:
start-up completed for `X` of the applications `on_startup` reached, cleanup ran for `X` reversed
of those `runner.cleanup()` reached. -/
theorem runner_life (tbl : List AppDef) (hnd : (groupsOf (rootChain tbl .startup)).Nodup) :
    enteredOf (lifeLog tbl .runner) =
      (reached tbl .startup Exits.empty (rootChain tbl .startup)).flatMap
        (fun g => ((Runner.step tbl {} .setup).r.X g).map (fun j => (g, j))) ∧
    exitsOf (lifeLog tbl .runner) =
      (cleaned tbl (Runner.step tbl {} .setup).r).flatMap
        (fun g => ((Runner.step tbl {} .setup).r.X g).reverse.map (fun j => (g, j))) ∧
    (∀ a, a ∉ reached tbl .startup Exits.empty (rootChain tbl .startup) →
      (Runner.step tbl {} .setup).r.X a = []) ∧
    ∀ a, ((Runner.step tbl {} .setup).r.X a).Nodup := by
  obtain ⟨hev, hX, -, -⟩ := setup_out tbl {}
  have h1 := send_startup_entered tbl (rootChain tbl .startup) Exits.empty
  have h2 := send_startup_X tbl (rootChain tbl .startup) Exits.empty hnd
  obtain ⟨c1, c2, -, -⟩ := cleanup_log tbl (Runner.step tbl {} .setup).r
  rw [lifeLog_runner, enteredOf_append, exitsOf_append, c1, c2, hev, hX,
    send_exits tbl .startup (by simp), h1, List.append_nil]
  refine ⟨?_, rfl, fun a ha => ?_, fun a => ?_⟩
  · rw [List.flatMap_def, List.flatMap_def]
    exact congrArg _ (List.map_congr_left fun g hg => by rw [h2, if_pos hg]; rfl)
  · rw [h2, if_neg ha]; rfl
  · rw [h2]
    split
    · rw [enterAll_entered]; exact List.nodup_range' 1
    · exact .nil

theorem cleaned_nodup (tbl : List AppDef) (r : Runner) (h : (groupsOf (rootChain tbl .cleanup)).Nodup) :
    (cleaned tbl r).Nodup := by
  unfold cleaned
  split
  · exact .nil
  · split
    · exact (reached_sublist _ _ _ _).nodup h
    · exact List.pairwise_singleton _ 0

theorem step_nested (tbl : List AppDef) (r : Runner) (op : ROp) :
    nestedFrom none (Runner.step tbl r op).ev = true := by
  cases op with
  | setup => rw [(setup_out tbl r).1]; exact send_nested _ _ _ _
  | cleanup => exact (cleanup_log tbl r).2.2.2

theorem reached_single (tbl : List AppDef) (s : Sig) (X : Exits) (a : Nat) (l : List Step)
    (h : groupsOf l = []) : reached tbl s X (.grp a :: l) = [a] := by
  have : ∀ X, reached tbl s X l = [] := fun X => List.eq_nil_of_sublist_nil (h ▸ reached_sublist tbl s X l)
  simp [reached, this]

theorem rootChain_single (d : AppDef) (s : Sig)
    (hsub : ∀ sl ∈ slotsOf s d, ∃ id f, sl = Slot.h id f) :
    ∃ hs, (∀ st ∈ hs, ∃ id f, st = Step.h id f ∧ Slot.h id f ∈ slotsOf s d) ∧
      rootChain [d] s = (if s = .shutdown then [] else [Step.grp 0]) ++ hs := by
  refine ⟨_, fun st hst => ?_, rfl⟩
  obtain ⟨sl, hsl, hst⟩ := List.mem_flatMap.mp hst
  obtain ⟨id, f, rfl⟩ := hsub sl hsl
  exact ⟨id, f, List.mem_singleton.mp hst, hsl⟩

theorem groupsOf_handlers {P : Nat → Fail → Prop} (hs : List Step)
    (h : ∀ st ∈ hs, ∃ id f, st = Step.h id f ∧ P id f) : groupsOf hs = [] := by
  induction hs with
  | nil => rfl
  | cons st hs ih =>
    obtain ⟨id, f, rfl, -⟩ := h st (by simp)
    exact ih fun st' hst' => h st' (by simp [hst'])

end Aio.C20
