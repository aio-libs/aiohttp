import AioProps.C14Lemmas
/-!
# C14 — property theorems (URL dispatch follows the documented resolution rule)

Model: `AioModel/C14.lean` (= `aiohttp/web_urldispatcher.py`, sub-app registration of
`web_app.py`, `normalize_path_middleware`).  `resolve` is the code (index walk), `linear` the
documented rule (no index).  Every statement quantifies over all tables / paths / methods /
hosts of the stated shape.
-/
namespace Aio.C14
open Aio

/-- the prefix index describes the resource list: the bucket of every key holds exactly the
positions of the (non-domain) resources with that key, in registration order, and
`_matched_sub_app_resources` holds exactly the domain resources -/
def IndexOK (t : Table) : Prop :=
  (∀ k, bucketOf t.index k = positions (fun r => !isDom r && keyOf r == k) t.rs) ∧
  t.matched = positions isDom t.rs

/-- well-formed prefix of a sub-application / static resource: empty, or its own index key and not `/` -/
def PfxWF (pfx : Str) : Prop := pfx = [] ∨ (indexKey pfx = pfx ∧ pfx ≠ [SL])

/-- one resource is good: its prefix is well formed and its sub-table (if any) satisfies `G` -/
def ResGood (G : Table → Prop) : Res → Prop
  | .sub pfx s => PfxWF pfx ∧ G s
  | .dom _ s => G s
  | .static pfx _ => PfxWF pfx
  | _ => True

/-- `IndexOK` at every nesting level (down to depth `f`), and well-formed prefixes -/
def Good : Nat → Table → Prop
  | 0, _ => True
  | f + 1, t => IndexOK t ∧ ∀ r ∈ t.rs, ResGood (Good f) r

theorem underPrefix_of_key_mem_walk {pfx p : Str} (hp : StartsSL p) (hw : PfxWF pfx)
    (hk : indexKey pfx ∈ walk p) : underPrefix pfx p = true := by
  rcases hw with rfl | ⟨h1, h2⟩
  · obtain ⟨t, rfl⟩ := List.head?_eq_some_iff.mp hp
    rfl
  · rw [h1] at hk
    rcases (mem_walk_iff hp).mp hk with h | ⟨_, h⟩
    · exact absurd h h2
    · exact underPrefix_iff_anc.mpr h

/-- **resolve_eq_linear.** For every table whose index is consistent (at every nesting
level), every request path starting with `/`, every method and host: the index walk of
`UrlDispatcher.resolve` returns exactly what the documented linear rule returns — same
handler, same match dict, same 404/405 and the same allowed methods in the same order. -/
theorem resolve_eq_linear (f : Nat) (t : Table) (q : Req) (hp : StartsSL q.path) (hg : Good f t) :
    resolve f t q = linear f t q := by
  induction f generalizing t with
  | zero => rfl
  | succ f ih =>
    obtain ⟨⟨hidx, hm⟩, hrs⟩ := hg
    -- the two answer functions agree on domain resources and on the resources whose key is visited
    have hA : ∀ r ∈ t.rs, (isDom r = false → keyOf r ∈ walk q.path) →
        ansWith (resolve f) r q = ansSpecWith (linear f) r q := by
      intro r hr hk
      have hgr := hrs r hr
      cases r with
      | plain p rts => rfl
      | dyn o ps rts => rfl
      | static pfx rts =>
        simp only [ansWith, ansSpecWith, underPrefix_of_key_mem_walk hp hgr (hk rfl), if_true]
      | sub pfx s =>
        simp only [ansWith, ansSpecWith, underPrefix_of_key_mem_walk hp hgr.1 (hk rfl), ih s hgr.2, if_true]
      | dom rule s => simp only [ansWith, ansSpecWith, ih s hgr]
    simp only [resolve, linear]
    rw [hm, atPositions_positions, List.map_congr_left fun r hr =>
      hA r (List.mem_filter.mp hr).1 fun hd => by simp [hd] at hr]
    -- `combine` ignores the answers "not me, no methods"; without them the buckets along the walk are the scan
    -- over all key lengths (`scan_eq`), since a resource whose key is off the walk gives that answer (`index_complete`)
    rw [← combine_dropInert, ← combine_dropInert (_ ++ (descRange _).flatMap _)]
    rw [dropInert_append, dropInert_append]
    congr 2
    simp only [hidx, atPositions_positions]
    have hB : ∀ k ∈ walk q.path,
        (t.rs.filter (fun r => !isDom r && keyOf r == k)).map (fun r => ansWith (resolve f) r q) =
        (t.rs.filter (fun r => !isDom r && keyOf r == k)).map (fun r => ansSpecWith (linear f) r q) := by
      intro k hk
      apply List.map_congr_left
      intro r hr
      have ⟨hr1, hr2⟩ := List.mem_filter.mp hr
      simp only [Bool.and_eq_true, Bool.not_eq_true', beq_iff_eq] at hr2
      exact hA r hr1 fun _ => by rw [hr2.2]; exact hk
    rw [List.flatMap_def, List.map_congr_left hB, ← List.flatMap_def]
    unfold descRange
    refine scan_eq t.rs keyOf isDom (fun r => ansSpecWith (linear f) r q) _ _ (walk_pairwise hp) ?_ ?_
    · intro k hk; have := walk_length_le hp hk; omega
    · intro r _ hd _ hk
      exact Classical.not_not.mp fun hne => hk (index_complete _ r q hp hd hne)


/-! ## 404 / 405 (tables of plain, dynamic and static resources) -/

def isLeaf : Res → Bool
  | .plain _ _ | .dyn _ _ _ | .static _ _ => true
  | _ => false

def Flat (t : Table) : Prop := ∀ r ∈ t.rs, isLeaf r = true

/-- the resource matches the request *path* (documented notion) -/
def pathMatch (r : Res) (q : Req) : Bool :=
  match r with
  | .plain p _ => p == q.path
  | .dyn _ ps _ => (dynMatch ps q.path).isSome
  | .static pfx _ => underPrefix pfx q.path && underPrefix pfx q.norm
  | _ => false

/-- the resource has a route for the method (`*` counts for plain / dynamic resources) -/
def methodMatch (r : Res) (m : Str) : Bool :=
  match r with
  | .static _ rts => (rts.find? (fun x => x.1 == m)).isSome
  | r => (r.routes.lookup m).isSome

def passList : Ans → List Str
  | .pass al => al
  | .final _ => []

theorem combine_scan (l : List Ans) (acc : List Str) :
    (∃ r, .final r ∈ l ∧ combine l acc = r) ∨
    ((∀ a ∈ l, ∃ al, a = .pass al) ∧ combine l acc = combine [] (acc ++ l.flatMap passList)) := by
  induction l generalizing acc with
  | nil => exact Or.inr ⟨nofun, by simp⟩
  | cons a l ih =>
    cases a with
    | final r => exact Or.inl ⟨r, List.mem_cons_self .., rfl⟩
    | pass al =>
      rcases ih (acc ++ al) with ⟨r, hr, hc⟩ | ⟨hp, hc⟩
      · exact Or.inl ⟨r, List.mem_cons_of_mem _ hr, hc⟩
      · refine Or.inr ⟨List.forall_mem_cons.mpr ⟨⟨al, rfl⟩, hp⟩, ?_⟩
        show combine l (acc ++ al) = combine [] (acc ++ (al ++ l.flatMap passList))
        rw [hc, List.append_assoc]

theorem ansRoutes_cases (rts : Routes) (md : Option Dict) (m : Str) :
    (md.isSome = false ∧ ansRoutes rts md m = .pass []) ∨
    (md.isSome = true ∧ (rts.lookup m).isSome = false ∧ ansRoutes rts md m = .pass rts.allowed) ∨
    (md.isSome = true ∧ (rts.lookup m).isSome = true ∧ ∃ h d, ansRoutes rts md m = .final (.found h d)) := by
  cases md with
  | none => exact Or.inl ⟨rfl, rfl⟩
  | some d =>
    unfold ansRoutes
    cases rts.lookup m with
    | none => exact Or.inr (Or.inl ⟨rfl, rfl, rfl⟩)
    | some h => exact Or.inr (Or.inr ⟨rfl, rfl, h, d, rfl⟩)

theorem leaf_answer (rec : Table → Req → Result) (r : Res) (q : Req) (hl : isLeaf r = true) :
    (pathMatch r q = false ∧ ansSpecWith rec r q = .pass []) ∨
    (pathMatch r q = true ∧ methodMatch r q.method = false ∧
      ansSpecWith rec r q = .pass r.routes.allowed) ∨
    (pathMatch r q = true ∧ methodMatch r q.method = true ∧
      ∃ h d, ansSpecWith rec r q = .final (.found h d)) := by
  cases r with
  | plain p rts =>
    have := ansRoutes_cases rts (if p == q.path then some [] else none) q.method
    have e : (if p == q.path then some ([] : Dict) else none).isSome = (p == q.path) := by
      cases p == q.path <;> rfl
    rw [e] at this
    exact this
  | dyn o ps rts => exact ansRoutes_cases rts (dynMatch ps q.path) q.method
  | static pfx rts =>
    simp only [pathMatch, methodMatch, ansSpecWith, ansLeaf, Res.routes]
    cases underPrefix pfx q.path
    · exact Or.inl ⟨rfl, rfl⟩
    · cases underPrefix pfx q.norm
      · exact Or.inl ⟨rfl, rfl⟩
      · cases rts.find? (fun x => x.1 == q.method) with
        | none => exact Or.inr (Or.inl ⟨rfl, rfl, rfl⟩)
        | some x => exact Or.inr (Or.inr ⟨rfl, rfl, _, _, rfl⟩)
  | sub pfx t => cases hl
  | dom rule t => cases hl

theorem leaf_not_dom (r : Res) (h : isLeaf r = true) : isDom r = false := by
  cases r with
  | sub _ _ | dom _ _ => cases h
  | _ => rfl

theorem linear_flat_answers (f : Nat) (t : Table) (q : Req) (hp : StartsSL q.path) (hf : Flat t) :
    ∃ l, linear (f + 1) t q = combine l [] ∧
      (∀ a ∈ l, ∃ r ∈ t.rs, a = ansSpecWith (linear f) r q) ∧
      ∀ r ∈ t.rs, ansSpecWith (linear f) r q ≠ .pass [] → ansSpecWith (linear f) r q ∈ l := by
  refine ⟨(descRange q.path.length).flatMap (fun n =>
      (t.rs.filter (fun r => !isDom r && (keyOf r).length == n)).map
        (fun r => ansSpecWith (linear f) r q)), ?_, ?_, ?_⟩
  · have : t.rs.filter isDom = [] :=
      List.filter_eq_nil_iff.mpr (fun r hr => by simp [leaf_not_dom r (hf r hr)])
    simp only [linear, this]; rfl
  · intro a ha
    simp only [List.mem_flatMap, List.mem_map, List.mem_filter] at ha
    obtain ⟨_, _, r, ⟨hr, _⟩, e⟩ := ha
    exact ⟨r, hr, e.symm⟩
  · -- a resource that answers is indexed on the walk, so its key is no longer than the path
    intro r hr hne
    have hk := walk_length_le hp (index_complete _ r q hp (leaf_not_dom r (hf r hr)) hne)
    simp only [List.mem_flatMap, List.mem_map, List.mem_filter, descRange, mem_descFrom]
    exact ⟨(keyOf r).length, by omega, r, ⟨hr, by simp [leaf_not_dom r (hf r hr)]⟩, rfl⟩

/-- `combine [] A` is 404 for empty `A`, else 405 with `A`. -/
theorem flat_verdict (f : Nat) (t : Table) (q : Req) (hp : StartsSL q.path) (hf : Flat t) :
    (∃ r ∈ t.rs, pathMatch r q = true ∧ methodMatch r q.method = true ∧
      ∃ h d, linear (f + 1) t q = .found h d) ∨
    ((∀ r ∈ t.rs, pathMatch r q = true → methodMatch r q.method = false) ∧
      ∃ A, (∀ m, m ∈ A ↔ ∃ r ∈ t.rs, pathMatch r q = true ∧ m ∈ r.routes.allowed) ∧
        linear (f + 1) t q = combine [] A) := by
  obtain ⟨l, hl, hsub, hsup⟩ := linear_flat_answers f t q hp hf
  have L := fun r hr => leaf_answer (linear f) r q (hf r hr)
  rw [hl]
  rcases combine_scan l [] with ⟨res, hmem, hc⟩ | ⟨hpass, hc⟩
  · left
    obtain ⟨r, hr, e⟩ := hsub _ hmem
    rcases L r hr with ⟨_, e'⟩ | ⟨_, _, e'⟩ | ⟨hpm, hmm, h, d, e'⟩
    · rw [e'] at e; cases e
    · rw [e'] at e; cases e
    · rw [e'] at e; cases e
      exact ⟨r, hr, hpm, hmm, h, d, hc⟩
  · right
    have hmeth : ∀ r ∈ t.rs, pathMatch r q = true → methodMatch r q.method = false := by
      intro r hr hpm
      rcases L r hr with ⟨h0, _⟩ | ⟨_, hmm, _⟩ | ⟨_, _, h, d, e⟩
      · rw [hpm] at h0; cases h0
      · exact hmm
      · -- a found handler is not inert, so it is scanned; but nothing scanned is final
        obtain ⟨al, e'⟩ := hpass _ (hsup r hr (by rw [e]; nofun))
        rw [e] at e'; cases e'
    refine ⟨hmeth, l.flatMap passList, ?_, by simpa using hc⟩
    intro m
    simp only [List.mem_flatMap]
    constructor
    · rintro ⟨a, ha, hm⟩
      obtain ⟨r, hr, rfl⟩ := hsub a ha
      rcases L r hr with ⟨_, e⟩ | ⟨hpm, _, e⟩ | ⟨_, _, h, d, e⟩
      · rw [e] at hm; cases hm
      · rw [e] at hm; exact ⟨r, hr, hpm, hm⟩
      · rw [e] at hm; cases hm
    · rintro ⟨r, hr, hpm, hm⟩
      rcases L r hr with ⟨h0, _⟩ | ⟨_, _, e⟩ | ⟨_, hmm, _⟩
      · rw [hpm] at h0; cases h0
      · refine ⟨_, hsup r hr ?_, by rw [e]; exact hm⟩
        rw [e]
        intro x; injection x with x
        rw [x] at hm; cases hm
      · rw [hmeth r hr hpm] at hmm; cases hmm

theorem allowed_nil_iff {t : Table} {q : Req} {A : List Str} (hne : ∀ r ∈ t.rs, r.routes ≠ [])
    (hA : ∀ m, m ∈ A ↔ ∃ r ∈ t.rs, pathMatch r q = true ∧ m ∈ r.routes.allowed) :
    A = [] ↔ ∀ r ∈ t.rs, pathMatch r q = false := by
  constructor
  · intro hnil r hr
    cases hpm : pathMatch r q with
    | false => rfl
    | true =>
      cases hrt : r.routes with
      | nil => exact absurd hrt (hne r hr)
      | cons x xs =>
        have := (hA x.1).mpr ⟨r, hr, hpm, by simp [Routes.allowed, hrt]⟩
        rw [hnil] at this; cases this
  · intro hall
    apply List.eq_nil_iff_forall_not_mem.mpr
    intro m hm
    obtain ⟨r, hr, hpm, _⟩ := (hA m).mp hm
    rw [hall r hr] at hpm; cases hpm

/-- **status_404_iff.** For a table of plain / dynamic / static resources that all have at
least one route: 404 is the answer exactly when no resource matches the path. -/
theorem status_404_iff (f : Nat) (t : Table) (q : Req) (hp : StartsSL q.path) (hf : Flat t)
    (hne : ∀ r ∈ t.rs, r.routes ≠ []) :
    linear (f + 1) t q = .e404 ↔ ∀ r ∈ t.rs, pathMatch r q = false := by
  rcases flat_verdict f t q hp hf with ⟨r, hr, hpm, _, h, d, e⟩ | ⟨_, A, hA, e⟩
  · rw [e]
    exact ⟨nofun, fun hall => by rw [hall r hr] at hpm; cases hpm⟩
  · rw [e, ← allowed_nil_iff hne hA]
    cases A <;> simp [combine]

/-- **allowed_complete.** When a flat table answers 405, the allowed methods are exactly the
methods of all resources that match the path — none missing, none extra. -/
theorem allowed_complete (f : Nat) (t : Table) (q : Req) (A : List Str) (hp : StartsSL q.path)
    (hf : Flat t) (hne : ∀ r ∈ t.rs, r.routes ≠ []) (h : linear (f + 1) t q = .e405 A) :
    ∀ m, m ∈ A ↔ ∃ r ∈ t.rs, pathMatch r q = true ∧ m ∈ r.routes.allowed := by
  rcases flat_verdict f t q hp hf with ⟨_, _, _, _, _, _, e⟩ | ⟨_, A', hA, e⟩
  · rw [e] at h; cases h
  · rw [e] at h
    cases A' with
    | nil => cases h
    | cons x xs => injection h with h; rw [← h]; exact hA

/-- **status_405_iff.** A flat table answers 405 exactly when some resource matches the path
and none of the path-matching resources has a route for the method. -/
theorem status_405_iff (f : Nat) (t : Table) (q : Req) (hp : StartsSL q.path) (hf : Flat t)
    (hne : ∀ r ∈ t.rs, r.routes ≠ []) :
    (∃ A, linear (f + 1) t q = .e405 A) ↔
      (∃ r ∈ t.rs, pathMatch r q = true) ∧
      ∀ r ∈ t.rs, pathMatch r q = true → methodMatch r q.method = false := by
  rcases flat_verdict f t q hp hf with ⟨r, hr, hpm, hmm, h, d, e⟩ | ⟨hmeth, A, hA, e⟩
  · rw [e]
    refine ⟨nofun, fun ⟨_, hall⟩ => ?_⟩
    rw [hall r hr hpm] at hmm; cases hmm
  · have h1 : (∃ A', combine [] A = .e405 A') ↔ A ≠ [] := by cases A <;> simp [combine]
    have h2 : (∃ r ∈ t.rs, pathMatch r q = true) ↔ A ≠ [] := by
      rw [Ne, allowed_nil_iff hne hA]; simp
    rw [e, h1, ← h2]
    exact ⟨fun h => ⟨h, hmeth⟩, fun h => h.1⟩


/-! ## registration operations keep the index consistent -/

/-- `register_resource` appends the resource, and its position to `_matched_sub_app_resources`
(a domain resource) or to the bucket of its key (`index_resource`) -/
theorem register_spec (t : Table) (r : Res) :
    (t.register r).rs = t.rs ++ [r] ∧
    (t.register r).matched = t.matched ++ (if isDom r then [t.rs.length] else []) ∧
    ∀ k, bucketOf (t.register r).index k =
      bucketOf t.index k ++ (if !isDom r && keyOf r == k then [t.rs.length] else []) := by
  unfold Table.register
  cases hd : isDom r with
  | true => exact ⟨rfl, rfl, fun k => (List.append_nil _).symm⟩
  | false =>
    refine ⟨rfl, (List.append_nil _).symm, fun k => ?_⟩
    show bucketOf (indexAdd t.index (keyOf r) t.rs.length) k = _
    rw [bucketOf_indexAdd]
    by_cases hk : k = keyOf r
    · rw [if_pos hk, hk, if_pos (by simp)]
    · rw [if_neg hk, if_neg (by simpa using fun e => hk e.symm), List.append_nil]

theorem register_indexOK (t : Table) (r : Res) (h : IndexOK t) : IndexOK (t.register r) := by
  obtain ⟨hrs, hm, hb⟩ := register_spec t r
  constructor
  · intro k
    rw [hb, hrs, positions_append_singleton, h.1 k]
  · rw [hm, hrs, positions_append_singleton, h.2]

theorem empty_good (f : Nat) : Good f Table.empty := by
  cases f with
  | zero => trivial
  | succ f => exact ⟨⟨fun _ => rfl, rfl⟩, fun _ h => nomatch h⟩

theorem register_good (f : Nat) (t : Table) (r : Res) (h : Good (f + 1) t)
    (hr : ResGood (Good f) r) : Good (f + 1) (t.register r) := by
  refine ⟨register_indexOK t r h.1, ?_⟩
  rw [(register_spec t r).1, List.forall_mem_append, List.forall_mem_singleton]
  exact ⟨h.2, hr⟩

theorem good_congr (f : Nat) (rs rs' : List Res) (idx : List (Str × List Nat)) (m : List Nat)
    (h : Good (f + 1) (.mk rs idx m))
    (hk : rs'.map (fun r => (isDom r, keyOf r)) = rs.map (fun r => (isDom r, keyOf r)))
    (hg : ∀ r ∈ rs', ResGood (Good f) r) : Good (f + 1) (.mk rs' idx m) := by
  have hP := fun g => positions_congr (fun r => (isDom r, keyOf r)) g rs' rs hk
  exact ⟨⟨fun k => (h.1.1 k).trans (hP (fun x => !x.1 && x.2 == k)).symm, h.1.2.trans (hP (·.1)).symm⟩, hg⟩

theorem withRoutes_isDom (r : Res) (rts : Routes) : isDom (r.withRoutes rts) = isDom r := by
  cases r <;> rfl

theorem withRoutes_keyOf (r : Res) (rts : Routes) : keyOf (r.withRoutes rts) = keyOf r := by
  cases r <;> rfl

theorem addRoute_ok {rq : List (Str × Str)} {t t' : Table} {m path : Str} {hid : Nat}
    (h : addRoute rq t m path hid = .ok t') :
    (∃ init last, t.rs = init ++ [last] ∧ rawMatch last path = true ∧
      t' = .mk (init ++ [last.withRoutes (last.routes ++ [(m, hid)])]) t.index t.matched) ∨
    (willReuse t path = false ∧ ∃ r, (∀ G, ResGood G r) ∧ t' = t.register r) := by
  have hfresh : addRoute.fresh rq t m path hid = .ok t' → ∃ r, (∀ G, ResGood G r) ∧ t' = t.register r := by
    intro he
    unfold addRoute.fresh at he
    split at he
    · cases he; exact ⟨.plain path [(m, hid)], fun _ => trivial, rfl⟩
    · cases hc : compile rq path with
      | error e => rw [hc] at he; cases he
      | ok ps =>
        rw [hc] at he
        cases he; exact ⟨.dyn path ps [(m, hid)], fun _ => trivial, rfl⟩
  unfold addRoute at h
  unfold willReuse
  split at h
  · cases h
  · split at h
    · next last hl =>
      split at h
      · next hraw =>
        split at h
        · cases h
        · obtain ⟨init, hi⟩ := List.getLast?_eq_some_iff.mp hl
          cases h
          exact Or.inl ⟨init, last, hi, hraw, by rw [hi, List.dropLast_concat]⟩
      · next hraw => exact Or.inr ⟨by simpa using hraw, hfresh h⟩
    · exact Or.inr ⟨rfl, hfresh h⟩

/-- `add_route` (= `add_resource` + `Resource.add_route`, including the re-use of the last
resource) keeps the table good -/
theorem addRoute_good (f : Nat) (rq : List (Str × Str)) (t t' : Table) (m path : Str) (hid : Nat)
    (h : Good (f + 1) t) (he : addRoute rq t m path hid = .ok t') : Good (f + 1) t' := by
  rcases addRoute_ok he with ⟨init, last, hrs, _, rfl⟩ | ⟨_, r, hr, rfl⟩
  · -- the new routes change neither `isDom` nor the key of the last resource
    cases t with
    | mk rs idx mt =>
      simp only [Table.rs] at hrs
      subst hrs
      refine good_congr f _ _ idx mt h ?_ ?_
      · simp only [List.map_append, List.map_cons, withRoutes_isDom, withRoutes_keyOf]
      · have h2 := h.2
        simp only [Table.rs, List.forall_mem_append, List.forall_mem_singleton] at h2 ⊢
        exact ⟨h2.1, by cases last <;> exact h2.2⟩
  · exact register_good f t r h (hr _)

/-- `add_static` keeps the table good (the re-quoted prefix is assumed well formed) -/
theorem addStatic_good (f : Nat) (t t' : Table) (pfx q : Str) (hid : Nat) (h : Good (f + 1) t)
    (hq : PfxWF q) (he : addStatic t pfx q hid = .ok t') : Good (f + 1) t' := by
  unfold addStatic at he
  split at he
  · cases he
  · generalize (if pfx.getLast? == some SL then pfx.dropLast else pfx) = p at he
    dsimp only at he
    split at he
    · cases he
    · cases he; exact register_good f t _ h hq

/-- `UrlDispatcher.freeze` (empty plain path becomes `/`) keeps the table good: the index key of
`""` and of `"/"` is the same -/
theorem freeze_good (f : Nat) (t : Table) (h : Good f t) : Good f t.freeze := by
  cases f with
  | zero => trivial
  | succ f =>
    cases t with
    | mk rs idx m =>
      refine good_congr f rs _ idx m h ?_ ?_
      · rw [List.map_map]
        apply List.map_congr_left
        intro r _
        cases r with
        | plain p rts => cases p <;> rfl
        | _ => rfl
      · rw [List.forall_mem_map]
        intro r hr
        have := h.2 r hr
        cases r <;> exact this

/-- `add_domain` keeps the table good -/
theorem addDomain_good (f : Nat) (t s : Table) (rule : Rule) (h : Good (f + 1) t) (hs : Good f s) :
    Good (f + 1) (addDomain t rule s) := register_good f t _ h (freeze_good f s hs)

/-- `add_subapp`, parent side: registering the (already prefixed) sub-application keeps the
parent good.  (*partial*: that the re-indexing loop `_add_prefix_to_resources` leaves the
sub-application's own index consistent — `Good f s'` — is a hypothesis here; it is exercised by the
correspondence run, which compares every nested `_resource_index` with the model's.)

Full statement, not proved:
`Good (f+1) t → Good f s → PfxWF q → addSubapp fuel t pfx q s = .ok t' → Good (f+1) t'`. -/
theorem addSubapp_good_partial (f fuel : Nat) (t t' s : Table) (pfx q : Str) (h : Good (f + 1) t)
    (hq : PfxWF q)
    (hs : ∀ s', addPrefixTable fuel (rstripSlash pfx) s = .ok s' → Good f s')
    (he : addSubapp fuel t pfx q s = .ok t') : Good (f + 1) t' := by
  unfold addSubapp at he
  simp only at he
  split at he
  · cases he
  · split at he
    · cases he
    · cases hp : addPrefixTable fuel (rstripSlash pfx) s with
      | error e => rw [hp] at he; cases he
      | ok s' =>
        rw [hp] at he
        cases he
        exact register_good f t _ h ⟨hq, freeze_good f s' (hs s' hp)⟩


/-! ## path-normalising redirects stay on the site -/

theorem stripLead_no_double (s : Str) : ∀ t, stripLeadSlashes s ≠ SL :: SL :: t := by
  intro t
  unfold stripLeadSlashes
  split
  · next a b u =>
    split
    · intro e; injection e with _ e
      have := List.head?_dropWhile_not (· = SL) u
      rw [e] at this
      simp at this
    · next hn => intro e; injection e with e1 e2; injection e2 with e2 _; exact hn ⟨e1, e2⟩
  · next hn => intro e; exact hn SL SL t e

theorem stripLead_startsSL (s : Str) (h : s = [] ∨ StartsSL s) :
    stripLeadSlashes s = [] ∨ StartsSL (stripLeadSlashes s) := by
  unfold stripLeadSlashes
  split
  · split
    · right; simp [StartsSL]
    · exact h
  · exact h

/-- **redirect_same_site.** Whatever the request path and the middleware flags, no path that
`normalize_path_middleware` tries (and therefore no redirect target it can produce, before
yarl's re-quoting) starts with `//`: it can never be read as a network-path reference to
another host. -/
theorem redirect_same_site (fl : MwFlags) (path : Str) (ends : Bool) (c : Str)
    (hc : c ∈ mwCandidates fl path ends) : ∀ t, c ≠ SL :: SL :: t := by
  unfold mwCandidates at hc
  simp only [List.mem_map] at hc
  obtain ⟨s, _, rfl⟩ := hc
  exact stripLead_no_double s

theorem mergeSlashes_startsSL (s : Str) (h : StartsSL s) : StartsSL (mergeSlashes s) := by
  fun_induction mergeSlashes s
  case case1 => exact h
  case case2 => exact h
  case case3 hab ih => exact ih (congrArg some hab.2)
  case case4 => exact h

theorem dropLast_startsSL (s : Str) (h : StartsSL s) : s.dropLast = [] ∨ StartsSL s.dropLast := by
  obtain ⟨t, rfl⟩ := List.head?_eq_some_iff.mp h
  cases t with
  | nil => exact Or.inl rfl
  | cons b u => exact Or.inr rfl

theorem mem_optional {α} {c : Prop} [Decidable c] {x s : α} (h : s ∈ if c then [x] else []) : s = x := by
  split at h
  · exact List.mem_singleton.mp h
  · cases h

/-- for an origin-form request path every candidate is empty or starts with exactly one `/` -/
theorem redirect_candidates_rooted (fl : MwFlags) (path : Str) (ends : Bool) (hp : StartsSL path)
    (c : Str) (hc : c ∈ mwCandidates fl path ends) :
    c = [] ∨ (StartsSL c ∧ ∀ t, c ≠ SL :: SL :: t) := by
  have h2 := redirect_same_site fl path ends c hc
  unfold mwCandidates at hc
  simp only [List.mem_map] at hc
  obtain ⟨s, hs, rfl⟩ := hc
  have hpa : StartsSL (path ++ [SL]) := by
    obtain ⟨t, rfl⟩ := List.head?_eq_some_iff.mp hp
    exact rfl
  have hs' : s = [] ∨ StartsSL s := by
    simp only [List.mem_append] at hs
    rcases hs with (((hs | hs) | hs) | hs) | hs <;> rw [mem_optional hs]
    · exact Or.inr (mergeSlashes_startsSL _ hp)
    · exact Or.inr hpa
    · exact dropLast_startsSL _ hp
    · exact Or.inr (mergeSlashes_startsSL _ hpa)
    · exact dropLast_startsSL _ (mergeSlashes_startsSL _ hp)
  exact (stripLead_startsSL s hs').imp id fun h => ⟨h, h2⟩


/-! ## url_for and resolution are inverse -/

/-- the path obtained by substituting the (decoded) values `ws` into the pattern, in order -/
def render : List Part → Dict → Str
  | [], _ => []
  | .lit l :: ps, ws => l ++ render ps ws
  | .var _ _ _ :: ps, w :: ws => w.2 ++ render ps ws
  | .var _ _ _ :: _, [] => []

/-- `ws` supplies, in order, one value per variable; each value is non-empty (as long as the
variable's minimal length), lies in the variable's character class, and is followed in the
rendered path by the end or by a character outside the class (for `{v}` between slashes: the `/`).
That last premise makes the greedy `runLen` stop at the end of the value, so `tryLen` succeeds at its first try. -/
inductive Fits : List Part → Dict → Prop
  | nil : Fits [] []
  | lit {l ps ws} : Fits ps ws → Fits (.lit l :: ps) ws
  | var {n rs mn ps w ws} : Fits ps ws → w ≠ [] → mn ≤ w.length → (∀ c ∈ w, inRanges rs c = true) →
      (render ps ws = [] ∨ ∃ c t, render ps ws = c :: t ∧ inRanges rs c = false) →
      Fits (.var n rs mn :: ps) ((n, w) :: ws)

theorem runLen_append (rs : List (Nat × Nat)) (w rest : Str) (hw : ∀ c ∈ w, inRanges rs c = true)
    (hr : rest = [] ∨ ∃ c t, rest = c :: t ∧ inRanges rs c = false) :
    runLen rs (w ++ rest) = w.length := by
  induction w with
  | nil =>
    rcases hr with rfl | ⟨c, t, rfl, hc⟩
    · rfl
    · simp [runLen, hc]
  | cons a w ih =>
    have ha := hw a (List.mem_cons_self ..)
    simp only [List.cons_append, runLen, ha, if_true, List.length_cons]
    rw [ih (fun c hc => hw c (List.mem_cons_of_mem _ hc))]

theorem match_render (ps : List Part) (ws : Dict) (h : Fits ps ws) :
    matchFrom ps (render ps ws) = some ws := by
  induction h with
  | nil => simp [matchFrom, render]
  | @lit l ps ws _ ih =>
    simp only [matchFrom, render, isPrefix_append_self, if_true, List.drop_left]
    exact ih
  | @var n rs mn ps w ws _ hne hmn hin hnext ih =>
    simp only [matchFrom, render]
    rw [runLen_append rs w _ hin hnext]
    cases hl : w.length with
    | zero => exact absurd (List.length_eq_zero_iff.mp hl) hne
    | succ m =>
      simp only [tryLen]
      have h1 : ¬ (m + 1 < mn) := by omega
      simp only [h1, if_false]
      rw [← hl, List.drop_left, List.take_left, ih]

/-- **urlfor_resolve_inverse (partial).** If the decoded request path is the formatter with the
values `ws` substituted (which is what yarl's `path_safe` of the `url_for` result is, by the
quoting laws that the harness checks on the real library), and each value fits its variable
(`Fits`: non-empty, inside the variable's class — for `{v}`: free of `/`, `{`, `}` — and
delimited by the next literal), then `DynamicResource._match` returns exactly the values,
each passed through `_unquote_path_safe`.

*partial*: the round trip through yarl (`_unquote_path_safe (path_safe (_quote_path v)) = v`, and
`path_safe` distributing over the formatter) is a hypothesis about the un-modelled library, and
literals that re-quoting changes are excluded (finding F12: for them the inverse fails). -/
theorem urlfor_resolve_inverse_partial (ps : List Part) (ws : Dict) (h : Fits ps ws) :
    dynMatch ps (render ps ws) = some (ws.map (fun kv => (kv.1, unquoteSafe kv.2))) := by
  simp [dynMatch, match_render ps ws h]

/-- values without `%` come back unchanged -/
theorem unquoteSafe_id (v : Str) (h : v.contains PCT = false) : unquoteSafe v = v := by
  unfold unquoteSafe
  rw [h]; rfl


/-! ## domain masks match the whole host -/

theorem starLoop_some (k : Str → Bool) (s : Str) (n : Nat) (h : starLoop k s n = true) :
    ∃ j, k (s.drop j) = true := by
  fun_induction starLoop k s n
  case case1 => exact ⟨0, h⟩
  case case2 n ih =>
    rcases Bool.or_eq_true_iff.mp h with h | h
    · exact ⟨n + 1, h⟩
    · exact ih h

theorem globMatch_literal (lit s : Str) (hl : (42 : Nat) ∉ lit) (h : globMatch lit s = true) : s = lit := by
  induction lit generalizing s with
  | nil => simpa [globMatch] using h
  | cons c lit ih =>
    have hc : c ≠ 42 := fun e => hl (by simp [e])
    cases s with
    | nil => simp [globMatch, hc] at h
    | cons d st =>
      simp only [globMatch, hc, if_false, Bool.and_eq_true, beq_iff_eq] at h
      rw [h.1, ih st (fun hm => hl (List.mem_cons_of_mem _ hm)) h.2]

/-- **glob_suffix.** A mask whose last part `lit` is free of `*` (e.g. `*.example.com`) matches
only hosts that *end* with that literal text: nothing can follow it. -/
theorem glob_suffix (p0 lit s : Str) (hl : (42 : Nat) ∉ lit) (h : globMatch (p0 ++ lit) s = true) :
    ∃ s0, s = s0 ++ lit := by
  induction p0 generalizing s with
  | nil => exact ⟨[], by simpa using globMatch_literal lit s hl h⟩
  | cons c p0 ih =>
    by_cases hc : c = 42
    · subst hc
      simp only [List.cons_append, globMatch, if_true] at h
      obtain ⟨k, hk⟩ := starLoop_some _ _ _ h
      obtain ⟨s0, hs0⟩ := ih _ hk
      exact ⟨s.take k ++ s0, by rw [List.append_assoc, ← hs0, List.take_append_drop]⟩
    · cases s with
      | nil => simp [globMatch, hc] at h
      | cons d st =>
        simp only [List.cons_append, globMatch, hc, if_false, Bool.and_eq_true, beq_iff_eq] at h
        obtain ⟨s0, hs0⟩ := ih _ h.2
        exact ⟨d :: s0, by rw [hs0]; rfl⟩

/-- … hence a `MaskDomain` rule with a literal tail only captures hosts that end with exactly
that text: `*.example.com` never takes `a.example.com.attacker.net`, `a.example.community` or
`a.example.com:8443` (none of them ends with `.example.com`). -/
theorem mask_match_ends_with_literal (p0 lit host : Str) (hl : (42 : Nat) ∉ lit)
    (h : ruleMatch (.mask (p0 ++ lit)) (some host) = true) : ∃ s0, host = s0 ++ lit := by
  simp only [ruleMatch] at h
  split at h
  · cases h
  · simp only [Bool.and_eq_true] at h
    exact glob_suffix p0 lit host hl h.1

/-- the seeded-defect hosts, on the model: `*.b.example` takes `x.b.example` and nothing that
continues after it -/
example :
    ruleMatch (.mask [42, 46, 98, 46, 101]) (some [120, 46, 98, 46, 101]) = true ∧
    ruleMatch (.mask [42, 46, 98, 46, 101]) (some [120, 46, 98, 46, 101, 46, 110, 101, 116]) = false ∧
    ruleMatch (.mask [42, 46, 98, 46, 101]) (some [120, 46, 98, 46, 101, 58, 56]) = false ∧
    ruleMatch (.mask [42, 46, 98, 46, 101]) (some [120, 10, 46, 98, 46, 101]) = false := by decide +kernel

/-! ## class-based views answer 405 with exactly the methods they serve -/

/-- **view_405_complete.** A class-based view calls a handler exactly for the standard methods
the class defines; every other method token — extension methods, names of other attributes of
`View`, different letter case — gets 405 whose Allow set is exactly the standard methods the
class defines (no call, no other outcome). -/
theorem view_405_complete (defined : List Str) (hid : Nat) (d : Dict) (m : Str) :
    (Gen.C14.methAll.contains m = true ∧ defined.contains m = true →
      viewDispatch defined hid d m = .found (hid + 1 + idxOf m Gen.C14.methAll) d) ∧
    (¬ (Gen.C14.methAll.contains m = true ∧ defined.contains m = true) →
      viewDispatch defined hid d m = .e405 (viewAllowed defined)) ∧
    (∀ x, x ∈ viewAllowed defined ↔ x ∈ Gen.C14.methAll ∧ x ∈ defined) := by
  refine ⟨?_, ?_, ?_⟩
  · rintro ⟨h1, h2⟩
    unfold viewDispatch
    rw [h1, h2]
    rfl
  · intro h
    unfold viewDispatch
    cases h1 : Gen.C14.methAll.contains m with
    | false => simp
    | true =>
      cases h2 : defined.contains m with
      | false => simp
      | true => exact absurd ⟨h1, h2⟩ h
  · intro x
    simp [viewAllowed, List.mem_filter]

/-! ## observers of results, for the statements below that evaluate the model -/

def isOk {α} (e : Except Err α) : Bool := match e with | .ok _ => true | .error _ => false
def okTable (e : Except Err Table) : Table := match e with | .ok t => t | .error _ => Table.empty
def errIs {α} (e : Except Err α) (x : Err) : Bool := match e with | .ok _ => false | .error y => y == x
def isFound (r : Result) (hid : Nat) : Bool := match r with | .found h _ => h == hid | _ => false
def is404 (r : Result) : Bool := match r with | .e404 => true | _ => false
def is405 (r : Result) : Bool := match r with | .e405 _ => true | _ => false

theorem ok_of_isOk (e : Except Err Table) (h : isOk e = true) : e = .ok (okTable e) := by
  cases e with
  | error _ => cases h
  | ok t => rfl

/-! ## frozen applications -/

/-- mounting on a frozen application is always refused (and, the result being a value, leaves
parent and sub-application untouched) -/
theorem frozen_refuses_mount (fuel : Nat) (t s : Table) (pfx q : Str) (rule : Rule) :
    isOk (addSubappOn true fuel t pfx q s) = false ∧ isOk (addDomainOn true t rule s) = false := by
  constructor
  · unfold addSubappOn; split <;> rfl
  · rfl

/-- on a frozen router `add_route` can only succeed by adding a route to the last resource; the
resource list keeps its length, the index and the matched list are untouched -/
theorem frozen_add_route_keeps_index (rq : List (Str × Str)) (t t' : Table) (m path : Str) (hid : Nat)
    (h : addRouteOn true rq t m path hid = .ok t') :
    t'.index = t.index ∧ t'.matched = t.matched ∧ t'.rs.length = t.rs.length := by
  unfold addRouteOn at h
  split at h
  · cases h
  · next t'' hok =>
    split at h
    · cases h
    · next hre =>
      cases h
      rcases addRoute_ok hok with ⟨init, last, hrs, _, rfl⟩ | ⟨hw, _⟩
      · exact ⟨rfl, rfl, by rw [hrs]; simp [Table.rs]⟩
      · simp [hw] at hre

/-! ## non-vacuity and the findings as kernel-checked facts about the model -/

def GET : Str := [71, 69, 84]
def POST : Str := [80, 79, 83, 84]
/-- `/a` -/ def pA : Str := [47, 97]
/-- `/a/{x}` -/ def tAX : Str := [47, 97, 47, 123, 120, 125]
/-- requote oracle for `/a/{x}`: `"/a/" ↦ "/a/"`, `"" ↦ ""` -/
def rqAX : List (Str × Str) := [([47, 97, 47], [47, 97, 47]), ([], [])]

/-- table: `add_route GET /a/{x}`, `add_route POST /a` -/
def exTable : Table :=
  okTable (addRoute rqAX (okTable (addRoute rqAX Table.empty GET tAX 0)) POST pA 1)

/-- the hypotheses of `resolve_eq_linear` are satisfiable: a table built by the registration
operations is `Good`, and `/a/b` starts with a slash -/
example : Good 1 exTable ∧ StartsSL [47, 97, 47, 98] := by
  refine ⟨?_, rfl⟩
  have h1 : addRoute rqAX Table.empty GET tAX 0 = .ok (okTable (addRoute rqAX Table.empty GET tAX 0)) :=
    ok_of_isOk _ (by decide +kernel)
  have g1 := addRoute_good 0 rqAX _ _ GET tAX 0 (empty_good 1) h1
  have h2 : addRoute rqAX (okTable (addRoute rqAX Table.empty GET tAX 0)) POST pA 1 = .ok exTable :=
    ok_of_isOk _ (by decide +kernel)
  exact addRoute_good 0 rqAX _ _ POST pA 1 g1 h2

/-- on `exTable`, `GET /a/b` finds handler 0, `GET /a` is a 405, `GET /b` a 404 -/
example :
    isFound (resolve 1 exTable ⟨[47, 97, 47, 98], [47, 97, 47, 98], GET, none⟩) 0 = true ∧
    is405 (resolve 1 exTable ⟨pA, pA, GET, none⟩) = true ∧
    is404 (resolve 1 exTable ⟨[47, 98], [47, 98], GET, none⟩) = true := by decide +kernel

/-- `Fits` is satisfiable: `/a/{x}` with `x = "b"` -/
example : Fits [.lit [47, 97, 47], .var [120] [(0, 46), (48, 122), (124, 124), (126, 1114111)] 1] [([120], [98])] :=
  .lit (.var .nil (List.cons_ne_nil _ _) (Nat.le_refl _)
    (fun c hc => by rw [List.mem_singleton.mp hc]; rfl) (Or.inl rfl))

/-- **Finding F12, on the model.** `add_get("/a b/{x}")`: the literal is re-quoted to `/a%20b/`
(oracle column) and compared with the *decoded* path `/a b/1`, so the resource can never
match: the answer is 404. -/
theorem f12_quoted_literal_never_matches :
    is404 (resolve 1
      (okTable (addRoute [([47, 97, 32, 98, 47], [47, 97, 37, 50, 48, 98, 47]), ([], [])] Table.empty GET
        [47, 97, 32, 98, 47, 123, 120, 125] 0))
      ⟨[47, 97, 32, 98, 47, 49], [47, 97, 32, 98, 47, 49], GET, none⟩) = true := by decide +kernel

/-- **Finding (registration), on the model.** A sub-application that holds an `add_domain`
resource cannot be mounted with `add_subapp`: `_add_prefix_to_resources` un-indexes a resource
that was never indexed → `KeyError`. -/
theorem subapp_with_domain_keyerror :
    errIs (addSubapp 4 Table.empty [47, 112] [47, 112]
      (addDomain Table.empty (.exact [97]) Table.empty)) .key = true := by decide +kernel

end Aio.C14
