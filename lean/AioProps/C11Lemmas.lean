import AioModel.C11
import AioProps.C12Lemmas
/-! Helper lemmas for C11: big-endian encode/decode, masking, the reader run over one written frame;
what the C11 statements are phrased in (`toMsg`, `OkPlain`, `plainWire`, `accepted`); one accepted step of the writer. -/
namespace Aio.C11
open Aio Aio.C12

theorem toUInt8_toNat_mod (n : Nat) : (n % 256).toUInt8.toNat = n % 256 := by
  simp [Nat.toUInt8, UInt8.ofNat, UInt8.toNat]

theorem toUInt8_toNat_lt {n : Nat} (h : n < 256) : n.toUInt8.toNat = n := by
  have := toUInt8_toNat_mod n
  rwa [Nat.mod_eq_of_lt h] at this

theorem beNat_append_single (l : Bytes) (b : UInt8) : beNat (l ++ [b]) = beNat l * 256 + b.toNat := by
  simp [beNat, List.foldl_append]

theorem beBytes_length (k n : Nat) : (beBytes k n).length = k := by
  induction k generalizing n with
  | zero => rfl
  | succ k ih => simp [beBytes, ih]

theorem beNat_beBytes : ∀ (k n : Nat), n < 256 ^ k → beNat (beBytes k n) = n := by
  intro k
  induction k with
  | zero => intro n h; simp at h; subst h; rfl
  | succ k ih =>
    intro n h
    simp only [beBytes, beNat_append_single]
    rw [ih (n / 256) (by rw [Nat.pow_succ] at h; omega), toUInt8_toNat_mod]
    omega

theorem maskGo_involutive (d : Bytes) : ∀ k0 k1 k2 k3,
    maskGo (maskGo d k0 k1 k2 k3) k0 k1 k2 k3 = d := by
  induction d with
  | nil => intros; rfl
  | cons b t ih =>
    intro k0 k1 k2 k3
    simp only [maskGo, ih]
    congr 1
    rw [UInt8.xor_assoc, UInt8.xor_self, UInt8.xor_zero]

variable {Z : Inflater}

theorem firstByte_fields : ∀ op ∈ [1,2,8,9,10], ∀ rsv ∈ [0,64],
    (0x80 ||| rsv ||| op) < 256 ∧ (0x80 ||| rsv ||| op) / 128 = 1 ∧ (0x80 ||| rsv ||| op) / 64 % 2 = rsv / 64 ∧
    (0x80 ||| rsv ||| op) / 32 % 2 = 0 ∧ (0x80 ||| rsv ||| op) / 16 % 2 = 0 ∧ (0x80 ||| rsv ||| op) % 16 = op := by
  decide

theorem secondByte_fields : ∀ lc, lc < 128 → ∀ mb ∈ [0,128],
    (lc ||| mb) < 256 ∧ (lc ||| mb) / 128 = mb / 128 ∧ (lc ||| mb) % 128 = lc := by
  decide

/-- RSV1 as the writer sets it: clear, or `0x40` on a data frame when permessage-deflate was negotiated -/
def Rsv1Ok (c : Cfg) (op rsv : Nat) : Prop := rsv = 0 ∨ rsv = 64 ∧ op ≤ 2 ∧ c.compress = true

theorem hdrCore_writer (c : Cfg) (k : K Z) {op rsv : Nat}
    (hop : op = 1 ∨ op = 2 ∨ op = 8 ∨ op = 9 ∨ op = 10)
    (hrsv : Rsv1Ok c op rsv)
    (hidle : k.frameFin = true ∨ k.compressed = none) (b1 : UInt8) (hl : op > 7 → b1.toNat % 128 ≤ 125) :
    hdrCore c k (0x80 ||| rsv ||| op).toUInt8 b1 =
      .ok { k with compressed := if op > 7 then k.compressed else some (decide (rsv = 64)),
                   frameFin := if op > 7 then k.frameFin else true, frameOpcode := op,
                   hasMask := decide (b1.toNat / 128 = 1), lenFlag := b1.toNat % 128, phase := .len } := by
  obtain ⟨f1, f2, f3, f4, f5, f6⟩ := firstByte_fields op (by rcases hop with h | h | h | h | h <;> simp [h]) rsv
    (by rcases hrsv with h | ⟨h, _⟩ <;> simp [h])
  unfold hdrCore
  simp only [toUInt8_toNat_lt f1, f2, f3, f4, f5, f6]
  rcases hop with h | h | h | h | h <;> subst h <;> rcases hrsv with h | ⟨h, h2, h3⟩ <;> subst h <;>
    simp_all [Gen.C12.knownOpcodes]

/-- the 7-bit length code the writer puts in the second byte, and the extended length bytes behind it -/
def lenCode (n : Nat) : Nat := if n < 126 then n else if n < 65536 then 126 else 127
def extBytes (n : Nat) : Bytes := if n < 126 then [] else if n < 65536 then beBytes 2 n else beBytes 8 n

theorem frameHeader_eq (fb mb n : Nat) :
    frameHeader fb mb n = [fb.toUInt8, (lenCode n ||| mb).toUInt8] ++ extBytes n := by
  unfold frameHeader lenCode extBytes
  split
  · rfl
  · split <;> rfl

theorem lenCode_lt (n : Nat) : lenCode n < 128 := by unfold lenCode; split <;> (try split) <;> omega

theorem extBytes_cases (n : Nat) (hn : n < 2 ^ 63) :
    (n < 126 ∧ lenCode n = n ∧ extBytes n = []) ∨
    (lenCode n = 126 ∧ ∃ a b, extBytes n = [a, b] ∧ a.toNat * 256 + b.toNat = n) ∨
    (lenCode n = 127 ∧ (extBytes n).length = 8 ∧ beNat (extBytes n) = n ∧ ¬ n > Gen.C12.maxPayloadLen) := by
  unfold lenCode extBytes
  by_cases h1 : n < 126
  · exact .inl ⟨h1, if_pos h1, if_pos h1⟩
  · rw [if_neg h1, if_neg h1]
    by_cases h2 : n < 65536
    · rw [if_pos h2, if_pos h2]
      refine .inr (.inl ⟨rfl, _, _, rfl, ?_⟩)
      rw [toUInt8_toNat_mod, toUInt8_toNat_mod]; omega
    · rw [if_neg h2, if_neg h2]
      exact .inr (.inr ⟨rfl, beBytes_length 8 n, beNat_beBytes 8 n (Nat.lt_trans hn (by decide)),
        by unfold Gen.C12.maxPayloadLen; omega⟩)

theorem runK_len_writer (c : Cfg) {k1 k2 : K Z} (hph : k1.phase = .len) {n : Nat} (hn : n < 2 ^ 63)
    (hl : k1.lenFlag = lenCode n) (hs : lenCore c k1 n = .ok k2) (more : Bytes) :
    runK c k1 (extBytes n ++ more) = runK c k2 more := by
  have : (extBytes n).length = want k1 ∧ onChunk c k1 (extBytes n) = keep k1 (lenCore c k1 n) := by
    unfold onChunk want
    rw [hph, hl]
    dsimp only
    rcases extBytes_cases n hn with ⟨h1, hc, he⟩ | ⟨hc, a, b, he, hv⟩ | ⟨hc, hlen, hv, hmx⟩
    · rw [hc, he, if_neg (by omega), if_neg (by omega), if_neg (by omega), if_neg (by omega)]
      exact ⟨rfl, rfl⟩
    · rw [hc, he, if_pos rfl, if_pos rfl]
      exact ⟨rfl, hv ▸ rfl⟩
    · rw [hc, hlen, hv, if_neg (by decide), if_pos (by decide), if_neg (by decide), if_pos (by decide), if_neg hmx]
      exact ⟨rfl, rfl⟩
  exact runK_adv c this.1 (this.2.trans (congrArg (keep k1) hs)) more

theorem maskBytes_involutive (key d : Bytes) : maskBytes key (maskBytes key d) = d := by
  rcases key with _ | ⟨a, _ | ⟨b, _ | ⟨c, _ | ⟨d, _ | ⟨e, t⟩⟩⟩⟩⟩ <;> simp [maskBytes, maskGo_involutive]

theorem runK_payload (c : Cfg) {p : K Z} (hph : p.phase = .payload) {ch : Bytes} (hw : ch.length = p.toRead)
    {payload : Bytes} (hpl : (if p.hasMask then maskBytes p.mask (p.frags ++ ch) else p.frags ++ ch) = payload)
    {k4 : K Z} (hf : handleFrame c { p with toRead := 0, frags := [] } p.frameFin p.frameOpcode payload p.compressed = .ok k4)
    (rest : Bytes) : runK c p (ch ++ rest) = runK c { k4 with phase := .header } rest := by
  refine runK_adv c (hw.trans (want_payload hph).symm) ?_ rest
  unfold onChunk
  rw [hph] at hf ⊢
  dsimp only
  rw [hpl, hf]

/-- reader between two messages -/
structure Idle (k : K Z) : Prop where
  phase : k.phase = .header
  frags : k.frags = []
  partialMsg : k.partialMsg = []
  opcode : k.opcode = none
  setsCompressed : k.frameFin = true ∨ k.compressed = none   -- the next data frame header sets `_compressed`

/-- bytes of one frame as the writer produces them (`rsv` = 0x40 for a compressed payload) -/
def wireFrame (useMask : Bool) (op rsv : Nat) (key wire : Bytes) : Bytes :=
  frameHeader (0x80 ||| rsv ||| op) (if useMask then 0x80 else 0) wire.length ++
    if useMask then key ++ maskBytes key wire else wire

/-- the reader's state when it has read such a frame up to the end of the payload -/
def framed (k : K Z) (op rsv : Nat) (useMask : Bool) (key : Bytes) (n : Nat) : K Z :=
  { k with compressed := if op > 7 then k.compressed else some (decide (rsv = 64)),
           frameFin := if op > 7 then k.frameFin else true, frameOpcode := op, hasMask := useMask,
           lenFlag := lenCode n, toRead := 0, frags := [], phase := .payload,
           mask := if useMask then key else k.mask }

theorem runK_wireFrame (c : Cfg) {k : K Z} (hidle : Idle k) {op rsv : Nat}
    (hop : op = 1 ∨ op = 2 ∨ op = 8 ∨ op = 9 ∨ op = 10)
    (hrsv : Rsv1Ok c op rsv)
    (useMask : Bool) {key wire : Bytes} (hkey : useMask = true → key.length = 4)
    (hn : wire.length < 2 ^ 63) (hsz : op ≤ 2 → c.maxMsgSize = 0 ∨ wire.length < c.maxMsgSize)
    (hctl : op > 7 → wire.length ≤ 125) {k3 k4 : K Z} (hk3 : k3 = framed k op rsv useMask key wire.length)
    (hf : handleFrame c k3 k3.frameFin k3.frameOpcode wire k3.compressed = .ok k4) (rest : Bytes) :
    runK c k (wireFrame useMask op rsv key wire ++ rest) = runK c { k4 with phase := .header } rest := by
  obtain ⟨hph, hfr, hpm, _, hff⟩ := hidle
  subst hk3
  generalize hmb : (if useMask = true then 0x80 else 0) = mb
  obtain ⟨g1, g2, g3⟩ := secondByte_fields (lenCode wire.length) (lenCode_lt _) mb (by rw [← hmb]; cases useMask <;> simp)
  have hmask : decide (mb / 128 = 1) = useMask := by rw [← hmb]; cases useMask <;> rfl
  have hh := hdrCore_writer c k hop hrsv hff (lenCode wire.length ||| mb).toUInt8 (by
    rw [toUInt8_toNat_lt g1, g3]; intro h7; unfold lenCode; have := hctl h7; rw [if_pos (by omega)]; exact this)
  rw [toUInt8_toNat_lt g1, g2, g3, hmask] at hh
  have hp0 : k.partialMsg.length = 0 := congrArg List.length hpm
  unfold wireFrame
  rw [frameHeader_eq, hmb, List.append_assoc, List.append_assoc,
    runK_adv c (by unfold want; rw [hph]; rfl) (by unfold onChunk; rw [hph]; exact congrArg (keep k) hh)]
  refine (runK_len_writer c rfl hn rfl (lenCore_ok.mpr ⟨?fits, rfl⟩) _).trans ?_
  case fits =>
    intro ⟨h1, h2, h3⟩
    have h2 : op = 1 ∨ op = 2 ∨ op = 0 := h2
    have h3 : wire.length ≥ c.maxMsgSize - k.partialMsg.length := h3
    rcases hsz (by omega) with h | h <;> omega
  cases useMask with
  | false =>
    simp only [Bool.false_eq_true, if_false]
    exact runK_payload c (payload := wire) rfl rfl (by rw [hfr]; rfl) (by exact hf) rest
  | true =>
    simp only [if_true, List.append_assoc]
    rw [runK_adv c (ch := key) (by exact hkey rfl) (by rfl)]
    exact runK_payload c (payload := wire) rfl (maskBytes_length ..) (by rw [hfr]; exact maskBytes_involutive key wire)
      (by exact hf) rest

/-- the message the reader should deliver for a send -/
def toMsg (s : Send) : Msg :=
  if s.opcode = 1 then .text s.payload
  else if s.opcode = 2 then .binary s.payload
  else if s.opcode = 9 then .ping s.payload
  else if s.opcode = 10 then .pong s.payload
  else match s.payload with
    | b0 :: b1 :: reason => .close (b0.toNat * 256 + b1.toNat) reason
    | _ => .close 0 []

/-- what may be sent uncompressed to a reader with configuration `c` (the size bound is strict:
`lenCore` refuses a data frame of exactly `max_msg_size` bytes) -/
def OkPlain (c : Cfg) (s : Send) : Prop :=
  s.payload.length < 2 ^ 63 ∧
  (((s.opcode = 1 ∨ s.opcode = 2) ∧ (c.maxMsgSize = 0 ∨ s.payload.length < c.maxMsgSize) ∧
      (s.opcode = 1 → c.decodeText = true → utf8Valid s.payload = true)) ∨
   ((s.opcode = 9 ∨ s.opcode = 10) ∧ s.payload.length ≤ 125) ∨
   (s.opcode = 8 ∧ s.payload.length ≤ 125 ∧
      (s.payload = [] ∨ ∃ b0 b1 reason, s.payload = b0 :: b1 :: reason ∧
        closeCodeOk (b0.toNat * 256 + b1.toNat) = true ∧ utf8Valid reason = true)))

theorem okPlain_facts {c : Cfg} {s : Send} (h : OkPlain c s) :
    (s.opcode = 1 ∨ s.opcode = 2 ∨ s.opcode = 8 ∨ s.opcode = 9 ∨ s.opcode = 10) ∧
    (s.opcode ≤ 2 → c.maxMsgSize = 0 ∨ s.payload.length < c.maxMsgSize) ∧
    (s.opcode > 7 → s.payload.length ≤ 125) := by
  rcases h.2 with ⟨hd, hsz, _⟩ | ⟨hpp, hl⟩ | ⟨h8, hl, _⟩
  · have : s.opcode ≤ 2 := by omega
    exact ⟨hd.elim .inl fun h => .inr (.inl h), fun _ => hsz, fun h7 => by omega⟩
  · have : s.opcode > 7 := by omega
    exact ⟨.inr (.inr (.inr hpp)), fun h2 => by omega, fun _ => hl⟩
  · exact ⟨.inr (.inr (.inl h8)), fun h2 => by omega, fun _ => hl⟩

theorem handleFrame_data (c : Cfg) (k3 p3 : K Z) (s : Send) (wire : Bytes) (hd : s.opcode = 1 ∨ s.opcode = 2)
    (hp : k3.partialMsg = []) (hop : k3.frameOpcode = s.opcode) (hfin : k3.frameFin = true)
    (hu : s.opcode = 1 → c.decodeText = true → utf8Valid s.payload = true)
    (hi : inflateMsg c { k3 with partialMsg := [] } k3.compressed wire = .ok (p3, s.payload)) :
    handleFrame c k3 k3.frameFin k3.frameOpcode wire k3.compressed = .ok (deliver p3 (toMsg s)) := by
  have hne : s.opcode ≠ 0 := by omega
  rw [hop, hfin]
  unfold handleFrame
  rw [if_pos (by omega)]
  unfold handleData
  simp only [hp, hne, List.nil_append, false_and, if_false, not_true_eq_false, ne_eq, not_false_eq_true, and_false, hi]
  rcases hd with h | h
  · by_cases hdt : c.decodeText = true
    · simp [h, toMsg, hdt, hu h hdt]
    · simp [h, toMsg, hdt]
  · simp [h, toMsg]

theorem handle_plain (c : Cfg) (k3 : K Z) (s : Send) (hok : OkPlain c s)
    (hp : k3.partialMsg = []) (hop : k3.frameOpcode = s.opcode)
    (hcz : s.opcode ≤ 2 → k3.compressed = some false ∧ k3.frameFin = true) :
    handleFrame c k3 k3.frameFin k3.frameOpcode s.payload k3.compressed = .ok (deliver k3 (toMsg s)) := by
  rcases hok.2 with ⟨hd, _, hu⟩ | ⟨hpp, _⟩ | ⟨h8, _, hcl⟩
  · have ⟨hc1, hf1⟩ := hcz (by omega)
    refine handleFrame_data c k3 k3 s _ hd hp hop hf1 hu ?_
    unfold inflateMsg
    rw [if_neg (fun h => h hc1), ← hp]
  · rw [hop]; unfold handleFrame
    rcases hpp with h | h <;> simp [h, toMsg]
  · rw [hop]; unfold handleFrame handleClose
    rcases hcl with h | ⟨b0, b1, reason, h, hc, hr⟩
    · simp [h8, h, toMsg]
    · simp [h8, h, toMsg, hc, hr]

theorem idle_after {k : K Z} (hidle : Idle k) (op rsv : Nat) (useMask : Bool) (key : Bytes) (n : Nat)
    (z : Z.St) (m : Msg) :
    Idle { deliver { framed k op rsv useMask key n with z := z } m with phase := .header } := by
  refine ⟨rfl, rfl, hidle.partialMsg, hidle.opcode, ?_⟩
  show (if op > 7 then k.frameFin else true) = true ∨ (if op > 7 then k.compressed else _) = none
  by_cases h : op > 7
  · rw [if_pos h, if_pos h]; exact hidle.setsCompressed
  · exact .inl (if_neg h)

theorem runK_plain_msg (c : Cfg) {k : K Z} (hidle : Idle k) {s : Send} (hok : OkPlain c s)
    (useMask : Bool) (hkey : useMask = true → s.maskKey.length = 4) (rest : Bytes) :
    ∃ k', Idle k' ∧ k'.msgs = k.msgs ++ [toMsg s] ∧ k'.z = k.z ∧
      runK c k (wireFrame useMask s.opcode 0 s.maskKey s.payload ++ rest) = runK c k' rest := by
  obtain ⟨hop, hsz, hctl⟩ := okPlain_facts hok
  exact ⟨_, idle_after hidle _ _ _ _ _ k.z _, rfl, rfl,
    runK_wireFrame c hidle hop (.inl rfl) useMask hkey hok.1 hsz hctl rfl
      (handle_plain c _ s hok hidle.partialMsg rfl fun h => ⟨if_neg (by omega), if_neg (by omega)⟩) rest⟩

/-- bytes of a sequence of uncompressed frames -/
def plainWire (useMask : Bool) : List Send → Bytes
  | [] => []
  | s :: ss => wireFrame useMask s.opcode 0 s.maskKey s.payload ++ plainWire useMask ss

theorem runK_nil (c : Cfg) {k : K Z} (h : k.phase = .header) : runK c k [] = { k := k, tail := [], exc := none } := by
  rw [runK_eq, if_pos (by unfold want; rw [h]; exact Nat.zero_lt_two), if_neg (by rw [h]; decide)]

theorem runK_plain_all (c : Cfg) (useMask : Bool) : ∀ (sends : List Send) (k : K Z),
    Idle k → (∀ s ∈ sends, OkPlain c s ∧ (useMask = true → s.maskKey.length = 4)) →
    ∃ k', Idle k' ∧ k'.msgs = k.msgs ++ sends.map toMsg ∧ k'.z = k.z ∧
      runK c k (plainWire useMask sends) = { k := k', tail := [], exc := none } := by
  intro sends
  induction sends with
  | nil => intro k hidle _; exact ⟨k, hidle, (List.append_nil _).symm, rfl, runK_nil c hidle.phase⟩
  | cons s ss ih =>
    intro k hidle hall
    have hs := hall s (List.mem_cons_self ..)
    obtain ⟨k1, hi1, hm1, hz1, he1⟩ := runK_plain_msg c hidle hs.1 useMask hs.2 (plainWire useMask ss)
    obtain ⟨k2, hi2, hm2, hz2, he2⟩ := ih k1 hi1 fun x hx => hall x (List.mem_cons_of_mem _ hx)
    exact ⟨k2, hi2, by rw [hm2, hm1, List.append_assoc]; rfl, hz2.trans hz1, he1.trans he2⟩

/-- The sends the writer actually puts on the wire.  Once `_closing` is set, data frames are
refused with `ClientConnectionResetError` (`opcode & 8 = 0`) and write nothing; control frames
still pass.  `_closing` is set by a CLOSE frame written through `send_frame` when the code
latches there (`Gen.C11.closeLatchesInSendFrame`, probed from the source on every run). -/
def accepted : Bool → List Send → List Send
  | _, [] => []
  | cl, s :: ss =>
    if cl = true ∧ s.opcode &&& 8 = 0 then accepted cl ss
    else s :: accepted (cl || (Gen.C11.closeLatchesInSendFrame && s.opcode == 8)) ss

theorem accepted_subset {s : Send} {l : List Send} {cl : Bool} (h : s ∈ accepted cl l) : s ∈ l := by
  fun_induction accepted cl l with
  | case1 => exact h
  | case2 cl a ss hc ih => exact List.mem_cons_of_mem _ (ih h)
  | case3 cl a ss hc ih =>
    rcases List.mem_cons.mp h with rfl | h
    · exact List.mem_cons_self ..
    · exact List.mem_cons_of_mem _ (ih h)

theorem accepted_append : ∀ (l r : List Send), (∀ s ∈ l, s.opcode ≠ 8) →
    accepted false (l ++ r) = l ++ accepted false r := by
  intro l r
  induction l with
  | nil => intro _; rfl
  | cons a l ih =>
    intro h
    have hb : (a.opcode == 8) = false := beq_false_of_ne (h a (List.mem_cons_self ..))
    rw [List.cons_append, accepted, if_neg (fun h' => Bool.false_ne_true h'.1), hb, Bool.and_false, Bool.or_false,
      ih fun s hs => h s (List.mem_cons_of_mem _ hs), List.cons_append]

/-- without a CLOSE among them (and the writer not closing) every send is accepted -/
theorem accepted_of_no_close : ∀ (l : List Send), (∀ s ∈ l, s.opcode ≠ 8) → accepted false l = l := by
  intro l h
  have := accepted_append l [] h
  rwa [List.append_nil, show accepted false [] = [] from rfl, List.append_nil] at this

variable {D : Deflater}

theorem afterSend_eq (cfg : WCfg) (w : WS) :
    afterSend cfg w = { w with outputSize := (afterSend cfg w).outputSize } := by
  unfold afterSend; split <;> rfl

theorem writeFrame_ok (cfg : WCfg) (w : WS) (wire : Bytes) (op rsv : Nat) (key : Bytes)
    (ht : w.transportClosing = false) (hfb : (0x80 ||| rsv ||| op) < 256) (hn : wire.length < 2 ^ 63) :
    writeFrame cfg w wire op rsv key =
      .ok { w with out := w.out ++ wireFrame cfg.useMask op rsv key wire,
                   outputSize := w.outputSize + (if cfg.useMask then Gen.C11.maskLen else 0) +
                     (frameHeader (0x80 ||| rsv ||| op) (if cfg.useMask then 0x80 else 0) wire.length).length +
                     wire.length } := by
  unfold writeFrame wireFrame
  rw [if_neg (by omega), ht, if_neg Bool.false_ne_true]
  cases cfg.useMask <;> simp only [Bool.false_eq_true, if_true, if_false, List.append_assoc, Nat.add_zero]

/-- one accepted step of the writer on the `WS` part: bytes appended, flags afterwards
(`afterSend` only resets `_output_size`) -/
theorem sendFrameZ_accepted (cfg : WCfg) (w : WS) (s : Send) (rsv : Nat) (wire zout : Bytes)
    (hno : ¬ (w.closing = true ∧ s.opcode &&& 8 = 0)) (ht : w.transportClosing = false)
    (hfb : (0x80 ||| rsv ||| s.opcode) < 256) (hn : wire.length < 2 ^ 63)
    (hr : framePlan cfg s.payload s.opcode s.compress zout = (wire, rsv)) {w' : WS}
    (hw' : (sendFrameZ cfg w s.payload s.opcode s.compress s.maskKey zout).1 = w') :
    w'.out = w.out ++ wireFrame cfg.useMask s.opcode rsv s.maskKey wire ∧ w'.transportClosing = false ∧
    w'.closing = (w.closing || (Gen.C11.closeLatchesInSendFrame && s.opcode == 8)) := by
  have hwf := writeFrame_ok cfg w wire s.opcode rsv s.maskKey ht hfb hn
  subst hw'
  unfold sendFrameZ
  rw [if_neg hno]
  simp only [hr, hwf]
  rw [afterSend_eq]
  by_cases h8 : Gen.C11.closeLatchesInSendFrame = true ∧ s.opcode = 8
  · rw [if_pos h8]; exact ⟨rfl, ht, by simp [h8.1, h8.2]⟩
  · rw [if_neg h8]; refine ⟨rfl, ht, ?_⟩
    cases hl : Gen.C11.closeLatchesInSendFrame <;> simp_all

theorem sendFrame_refused (cfg : WCfg) (w : W D) (s : Send)
    (h : w.ws.closing = true ∧ s.opcode &&& 8 = 0) :
    (sendFrame cfg w s.payload s.opcode s.compress s.maskKey).1 = w := by
  unfold sendFrame; rw [if_pos h]

theorem sendFrame_plain (cfg : WCfg) (w : W D) (s : Send)
    (hno : ¬ (w.ws.closing = true ∧ s.opcode &&& 8 = 0)) (ht : w.ws.transportClosing = false)
    (hop : s.opcode = 1 ∨ s.opcode = 2 ∨ s.opcode = 8 ∨ s.opcode = 9 ∨ s.opcode = 10)
    (hn : s.payload.length < 2 ^ 63) (hroute : route cfg s.opcode s.compress s.payload.length = .plain)
    {w' : W D} (hw' : (sendFrame cfg w s.payload s.opcode s.compress s.maskKey).1 = w') :
    w'.ws.out = w.ws.out ++ wireFrame cfg.useMask s.opcode 0 s.maskKey s.payload ∧
    w'.ws.transportClosing = false ∧
    w'.ws.closing = (w.ws.closing || (Gen.C11.closeLatchesInSendFrame && s.opcode == 8)) ∧ w'.comp = w.comp := by
  have hsf : w' = { w with ws := (sendFrameZ cfg w.ws s.payload s.opcode s.compress s.maskKey []).1 } := by
    rw [← hw']; unfold sendFrame; rw [if_neg hno, hroute]
  obtain ⟨h1, h2, h3⟩ := sendFrameZ_accepted cfg w.ws s 0 s.payload [] hno ht
    (firstByte_fields s.opcode (by rcases hop with h | h | h | h | h <;> simp [h]) 0 (by simp)).1 hn
    (by unfold framePlan; rw [hroute]) rfl
  rw [hsf]
  exact ⟨h1, h2, h3, rfl⟩

end Aio.C11
