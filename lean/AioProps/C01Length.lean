import AioProps.C03
/-!
# C01: a Content-Length body ends exactly `n` bytes after the head — for every sequence of reads

`length_body_compositional` (C03.lean) is the two-read fact.  This file states the *framing* clause
of C01 for `Content-Length: n` bodies outright, over every way the bytes can arrive:

* `lengthRun` runs `HttpPayloadParser.feed_data` over a list of reads the way `HttpParser.feed_data`
  does: as long as the body asks for more the next read goes to it; once it completes, the surplus
  of that read and all later reads belong to the next message.
* `content_length_body_exact`: for every `n ≠ 0` and every list of reads `ds` (any number, any
  sizes, empty reads included) — if fewer than `n` bytes have arrived the body is still open, has
  delivered every byte so far and waits for exactly the missing count; otherwise it has delivered
  exactly the first `n` bytes, reported completion exactly once (on the read in which the `n`-th
  byte arrived) and handed back exactly the bytes after the `n`-th.  No byte of the next message is
  taken for body data and no body byte is read as the next message, whatever the segmentation.
* `content_length_body_events`: a read never emits anything but data and, on completion, one `eof`.
* `close_delimited_body_exact`, `bodiless_takes_nothing`: the same run for the other two unchunked
  framings.
-/
namespace Aio.Http

/-- outcome of a run of reads on one body -/
inductive RunEnd where
  | waiting (p : PState)           -- still open, this state
  | done (surplus : Bytes)         -- completed; these bytes belong to the next message
  | raised
deriving Repr

/-- reads `ds` given one after another to a body parser in state `p`: bytes delivered, number of
`eof` (completion) events, and how the run ended -/
def lengthRun (cfg : Cfg) : PState → List Bytes → Bytes × Nat × RunEnd
  | p, [] => ([], 0, .waiting p)
  | p, d :: ds =>
    match payloadFeed cfg p d with
    | (.needs p', ev) =>
      let r := lengthRun cfg p' ds
      (dataOf ev ++ r.1, (ev.filter (fun e => e matches .eof)).length + r.2.1, r.2.2)
    | (.complete rest, ev) => (dataOf ev, (ev.filter (fun e => e matches .eof)).length, .done (rest ++ ds.flatten))
    | (.err _ _, ev) => (dataOf ev, (ev.filter (fun e => e matches .eof)).length, .raised)

private theorem dataEv_no_eof (bs : Bytes) : (dataEv bs).filter (fun e => e matches .eof) = [] := by
  unfold dataEv; split <;> simp

/-- **Content-Length framing, every segmentation.** -/
theorem content_length_body_exact (cfg : Cfg) (ds : List Bytes) (p : PState)
    (ht : p.type = .length) (hn : p.length ≠ 0) :
    lengthRun cfg p ds =
      if ds.flatten.length < p.length
      then (ds.flatten, 0, .waiting { p with length := p.length - ds.flatten.length })
      else (ds.flatten.take p.length, 1, .done (ds.flatten.drop p.length)) := by
  induction ds generalizing p with
  | nil => exact (if_pos (Nat.pos_of_ne_zero hn)).symm
  | cons d ds ih =>
    rw [lengthRun, List.flatten_cons, List.length_append]
    rcases payloadFeed_length cfg p d ht with ⟨hle, hpf⟩ | ⟨hd, hpf⟩
    · -- the `length`-th byte is in this read
      rw [if_neg (by omega), List.take_append_of_le_length hle, List.drop_append_of_le_length hle]
      simp only [hpf, dataOf_dataEv, dataOf, List.append_nil, List.filter_append, dataEv_no_eof]
      rfl
    · -- the read does not complete the body
      rw [List.take_append, List.drop_append, List.take_of_length_le (Nat.le_of_lt hd),
        List.drop_of_length_le (Nat.le_of_lt hd), List.nil_append]
      simp only [hpf, ih { p with length := p.length - d.length } ht (Nat.sub_ne_zero_of_lt hd), dataOf_dataEv',
        dataEv_no_eof, List.length_nil, Nat.zero_add]
      by_cases hr : ds.flatten.length < p.length - d.length
      · rw [if_pos hr, if_pos (by omega), Nat.sub_sub]
      · rw [if_neg hr, if_neg (by omega)]

/-- **Nothing but data and one completion.** What a read of a Content-Length body emits is, at most,
one data event followed — only when the body completes — by one `eof`. -/
theorem content_length_body_events (cfg : Cfg) (p : PState) (d : Bytes) (ht : p.type = .length) :
    (payloadFeed cfg p d).2 = dataEv (d.take p.length) ∨
    ((payloadFeed cfg p d).2 = dataEv (d.take p.length) ++ [.eof] ∧
      (payloadFeed cfg p d).1 = .complete (d.drop p.length) ∧ p.length ≤ d.length) := by
  rcases payloadFeed_length cfg p d ht with ⟨hle, hpf⟩ | ⟨hd, hpf⟩ <;> rw [hpf]
  · exact .inr ⟨rfl, rfl, hle⟩
  · exact .inl (by rw [List.take_of_length_le (Nat.le_of_lt hd)])

/-- **Close-delimited bodies, every segmentation.** A body without Content-Length or chunked coding
(responses, and what follows a CONNECT request) takes every byte of every read as data, never reports completion
on its own — only `feed_eof()` ends it — and hands nothing back. -/
theorem close_delimited_body_exact (cfg : Cfg) (ds : List Bytes) (p : PState) (ht : p.type = .untilEof) :
    lengthRun cfg p ds = (ds.flatten, 0, .waiting p) := by
  induction ds with
  | nil => rfl
  | cons d ds ih =>
    simp only [lengthRun, payloadFeed_untilEof cfg p d ht, ih, dataOf_dataEv', dataEv_no_eof, List.flatten_cons,
      List.length_nil, Nat.zero_add]

theorem lengthRun_none (cfg : Cfg) (ds : List Bytes) (p : PState) (ht : p.type = .none) :
    lengthRun cfg p ds = ([], 0, .waiting p) := by
  induction ds with
  | nil => rfl
  | cons d ds ih =>
    simp only [lengthRun, payloadFeed_none cfg p d ht, ih, dataOf, List.filter_nil, List.length_nil, List.nil_append]

/-- **Bodiless messages** (`PType.none`: HEAD responses, 1xx/204/304) take nothing: every read is
left alone, no data, no completion. -/
theorem bodiless_takes_nothing (cfg : Cfg) (ds : List Bytes) (p : PState) (ht : p.type = .none) :
    (lengthRun cfg p ds).1 = [] ∧ (lengthRun cfg p ds).2.1 = 0 := by
  rw [lengthRun_none cfg ds p ht]
  exact ⟨rfl, rfl⟩

/-- non-vacuity: `Content-Length: 5`, bytes arriving as `ab`, ``, `cde12`, `3` — the body is `abcde`,
completion is reported once, `123` belongs to the next message -/
example :
    let r := lengthRun {} { type := .length, length := 5 } [[97, 98], [], [99, 100, 101, 49, 50], [51]]
    r.1 = [97, 98, 99, 100, 101] ∧ r.2.1 = 1 ∧
      (match r.2.2 with | .done s => s == [49, 50, 51] | _ => false) = true := by
  decide +kernel

/-- and one byte short: still open, waiting for exactly one more -/
example :
    (match (lengthRun {} { type := .length, length := 5 } [[97, 98], [99, 100]]).2.2 with
      | .waiting q => q.length == 1 | _ => false) = true := by
  decide +kernel

end Aio.Http
