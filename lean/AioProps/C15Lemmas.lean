import AioModel.C15
/-!
# C15 — helper lemmas (digits / range parsing, slice arithmetic, send loop)
-/
namespace Aio.C15
open Aio

theorem spanDigits_eq (s : Str) : spanDigits s = (s.takeWhile isDig, s.dropWhile isDig) := by
  induction s with
  | nil => rfl
  | cons c t ih =>
    rw [spanDigits, ih, List.takeWhile_cons, List.dropWhile_cons]
    split <;> rfl

/-- a digit string followed by a non-digit (or nothing) is split exactly there -/
theorem spanDigits_of_allDigits (a r : Str) (ha : allDigits a = true)
    (hr : ∀ c t, r = c :: t → isDig c = false) : spanDigits (a ++ r) = (a, r) := by
  have ha' : ∀ c ∈ a, isDig c = true := List.all_eq_true.mp ha
  rw [spanDigits_eq, List.takeWhile_append_of_pos ha', List.dropWhile_append_of_pos ha']
  cases r with
  | nil => simp
  | cons c t => simp [hr c t rfl]

theorem allDigits_append (a b : Str) : allDigits (a ++ b) = (allDigits a && allDigits b) := by
  simp [allDigits]

theorem optInt_of_short (d : Str) (h : d.length ≤ Gen.C15.maxStrDigits) :
    optInt d = some (if d = [] then none else some (decVal d)) := by
  unfold optInt pyInt
  split
  · rfl
  · have : ¬ d.length > Gen.C15.maxStrDigits := by omega
    simp [this]

/-- the Python `slice` that `http_range` returns for a well-formed single range -/
def sliceOf : RangeSpec → Slice
  | .fromTo f l => (some (f : Int), some ((l : Int) + 1))
  | .fromOn f => (some (f : Int), none)
  | .suffix n => (some (-(n : Int)), none)

/-- `first-pos ≤ last-pos`, which RFC 9110 §14.1.1 requires of an `int-range` -/
def RangeSpec.WF : RangeSpec → Prop
  | .fromTo f l => f ≤ l
  | _ => True

/-- the regular expression and the reference grammar cut `a-b` (digit strings `a`, `b`) at the same dash -/
theorem cut_digits (a b : Str) (ha : allDigits a = true) (hb : allDigits b = true) :
    matchRange (bytesEq ++ (a ++ 45 :: b)) = some (a, b) ∧
    (a ++ 45 :: b).takeWhile (· != 45) = a ∧ (a ++ 45 :: b).drop a.length = 45 :: b := by
  refine ⟨?_, ?_, List.drop_left⟩
  · have h1 : spanDigits (a ++ 45 :: b) = (a, 45 :: b) :=
      spanDigits_of_allDigits a _ ha (fun c t e => by cases e; rfl)
    have h2 : spanDigits b = (b, []) := by
      simpa using spanDigits_of_allDigits b [] hb nofun
    simp [matchRange, bytesEq, h1, matchTail, h2]
  · have hd : ∀ c ∈ a, (c != 45) = true := fun c hc => by
      have := List.all_eq_true.mp ha c hc
      simp only [isDig, Bool.and_eq_true, decide_eq_true_eq] at this
      simp; omega
    rw [List.takeWhile_append_of_pos hd]
    simp

theorem matchRange_some (body a b : Str) (hnl : body.getLast? ≠ some 10)
    (h : matchRange (bytesEq ++ body) = some (a, b)) :
    body = a ++ 45 :: b ∧ allDigits a = true ∧ allDigits b = true := by
  have hmr : matchRange (bytesEq ++ body) = matchTail (body.takeWhile isDig) (body.dropWhile isDig) := by
    simp [matchRange, bytesEq, spanDigits_eq]
  have hb : body.takeWhile isDig ++ body.dropWhile isDig = body := List.takeWhile_append_dropWhile
  rw [hmr] at h
  generalize body.dropWhile isDig = r at h hb
  revert h
  fun_cases matchTail (body.takeWhile isDig) r <;> intro h
  case case1 r2 hc =>
    cases h
    have hb2 : r2.takeWhile isDig ++ r2.dropWhile isDig = r2 := List.takeWhile_append_dropWhile
    simp only [spanDigits_eq] at hc ⊢
    rcases hc with hc | hc
    · rw [hc, List.append_nil] at hb2
      exact ⟨by rw [hb2, hb], List.all_takeWhile, List.all_takeWhile⟩
    · -- `$` matched before a trailing newline: excluded by `hnl`
      exfalso; apply hnl
      rw [← hb, ← hb2, hc, ← List.cons_append, ← List.append_assoc]
      exact List.getLast?_concat ..
  all_goals cases h

theorem specOf_some (a r : Str) (sp : RangeSpec) (h : specOf a r = some sp) :
    ∃ b, r = 45 :: b ∧ allDigits a = true ∧ allDigits b = true ∧ sp.WF := by
  revert h
  fun_cases specOf a r <;> intro h
  case case2 b hd _ _ | case3 b hd _ _ => -- `-b`, `a-`
    rw [Bool.and_eq_true] at hd
    cases h
    exact ⟨b, rfl, hd.1, hd.2, trivial⟩
  case case4 b hd _ _ hle => -- `a-b`
    rw [Bool.and_eq_true] at hd
    cases h
    exact ⟨b, rfl, hd.1, hd.2, hle⟩
  all_goals cases h

/-- **`http_range` computes the RFC 9110 reading.**  For every header value without a
trailing newline whose numbers `int()` can read, `BaseRequest.http_range` yields exactly the
slice of the single byte range the reference grammar parses, and `ValueError` for everything
the grammar rejects. -/
theorem httpRange_eq_spec (s : Str) (hnl : s.getLast? ≠ some 10)
    (hlen : s.length ≤ Gen.C15.maxStrDigits) :
    httpRange (some s) =
      (match parseSpec s with
       | some sp => .ok (sliceOf sp)
       | none => .error ()) := by
  by_cases h6 : s.take 6 = bytesEq
  · obtain ⟨body, rfl⟩ : ∃ body, s = bytesEq ++ body := ⟨s.drop 6, by rw [← h6, List.take_append_drop]⟩
    have hnl' : body.getLast? ≠ some 10 := fun h => hnl (by rw [List.getLast?_append]; simp [h])
    have hps : parseSpec (bytesEq ++ body) =
        specOf (body.takeWhile (· != 45)) (body.drop (body.takeWhile (· != 45)).length) := by
      simp [parseSpec, bytesEq]
    cases hm : matchRange (bytesEq ++ body) with
    | none =>
      -- nothing the reference grammar reads is missed: such a value is digits, `-`, digits
      have : parseSpec (bytesEq ++ body) = none := by
        rw [hps]
        cases hs : specOf (body.takeWhile (· != 45)) (body.drop (body.takeWhile (· != 45)).length) with
        | none => rfl
        | some sp =>
          obtain ⟨b, hr, ha, hb, _⟩ := specOf_some _ _ sp hs
          have hbody := List.take_append_drop (body.takeWhile (· != 45)).length body
          rw [hr, ← List.prefix_iff_eq_take.mp (List.takeWhile_prefix _)] at hbody
          rw [← hbody, (cut_digits _ b ha hb).1] at hm
          cases hm
      simp [httpRange, hm, this]
    | some ab =>
      obtain ⟨a, b⟩ := ab
      obtain ⟨rfl, ha, hb⟩ := matchRange_some body a b hnl' hm
      obtain ⟨_, htw, hdrop⟩ := cut_digits a b ha hb
      have hl : (bytesEq ++ (a ++ 45 :: b)).length = 6 + (a.length + (b.length + 1)) := by
        simp [bytesEq]; omega
      rw [hps, htw, hdrop]
      simp only [httpRange, hm, optInt_of_short a (by omega), optInt_of_short b (by omega), specOf, ha, hb,
        Bool.and_self, if_true]
      by_cases hae : a = [] <;> by_cases hbe : b = []
      · simp [hae, hbe]
      · simp [hae, hbe, sliceOf]
      · simp [hae, hbe, sliceOf]
      · simp [hae, hbe, sliceOf]
        by_cases hle : decVal a ≤ decVal b
        · have : ¬ decVal a ≥ decVal b + 1 := by omega
          simp [hle, this]
        · have : decVal a ≥ decVal b + 1 := by omega
          simp [hle, this]
  · simp [httpRange, matchRange, parseSpec, h6]

theorem parseSpec_wf (s : Str) (sp : RangeSpec) (h : parseSpec s = some sp) : sp.WF := by
  unfold parseSpec at h
  split at h
  · obtain ⟨_, _, _, _, hwf⟩ := specOf_some _ _ sp h
    exact hwf
  · cases h

/-- every slice `http_range` can return -/
theorem httpRange_shape (rng : Option Str) (sl : Slice) (h : httpRange rng = .ok sl) :
    (rng = none ∧ sl = (none, none)) ∨
    ∃ sp : RangeSpec, sp.WF ∧ sl = sliceOf sp := by
  revert h
  fun_cases httpRange rng <;> intro h
  case case1 => cases h; exact .inl ⟨rfl, rfl⟩ -- no Range header
  case case3 e _ _ => cases h; exact .inr ⟨.suffix e, trivial, rfl⟩ -- `-e`
  case case5 st e hlt _ _ => cases h; exact .inr ⟨.fromTo st e, by show st ≤ e; omega, rfl⟩ -- `st-e`
  case case7 st _ _ => cases h; exact .inr ⟨.fromOn st, trivial, rfl⟩ -- `st-`
  all_goals cases h

/-- the 416 plan: `Content-Range: bytes */size`, nothing sent -/
def unsatPlan (size : Nat) : Plan :=
  { status := 416, contentRange := .unsat size, contentLength := none, sendBody := false, offset := 0, count := 0 }

/-- the 206 plan for the inclusive byte positions `first..last` -/
def partialPlan (isHead : Bool) (size first last : Nat) : Plan :=
  { status := 206, contentRange := .range first last size,
    contentLength := some ((last - first + 1 : Nat) : Int), sendBody := !isHead,
    offset := first, count := ((last - first + 1 : Nat) : Int) }

/-- the 200 plan: the whole file -/
def fullPlan (isHead : Bool) (size : Nat) : Plan :=
  { status := 200, contentRange := .absent, contentLength := some size,
    sendBody := !(size == 0 || isHead), offset := 0, count := size }

/-- the byte positions `_prepare_open_file` serves for a parsed range: those of RFC 9110, except
that the empty suffix `bytes=-0` is read as `bytes=0-` (finding F15: `-0 = 0` is not negative, and
`http_range` returns the same slice for both) -/
def servedSlice (sp : RangeSpec) (size : Nat) : Option (Nat × Nat) :=
  rfcSlice (if sp = .suffix 0 then .fromOn 0 else sp) size

theorem rfcSlice_bounds {sp : RangeSpec} {size f l : Nat} (hwf : sp.WF)
    (h : rfcSlice sp size = some (f, l)) : f ≤ l ∧ l < size := by
  revert h
  fun_cases rfcSlice sp size <;> intro h <;> cases h
  · simp only [RangeSpec.WF] at hwf
    omega
  · omega
  · omega

theorem servedSlice_bounds {sp : RangeSpec} {size f l : Nat} (hwf : sp.WF)
    (h : servedSlice sp size = some (f, l)) : f ≤ l ∧ l < size := by
  unfold servedSlice at h
  split at h
  · exact rfcSlice_bounds (sp := .fromOn 0) trivial h
  · exact rfcSlice_bounds hwf h

theorem plan206_eq (isHead : Bool) (size first last : Nat) (hfl : first ≤ last) (s c : Int)
    (hs : s = first) (hc : c = ((last - first + 1 : Nat) : Int)) :
    ({ status := Gen.C15.stPartial, contentRange := .range s (s + c - 1) size, contentLength := some c,
       sendBody := !(c == 0 || isHead), offset := s, count := c } : Plan) =
      partialPlan isHead size first last := by
  subst hs hc
  have h1 : ((first : Int) + ((last - first + 1 : Nat) : Int) - 1) = last := by omega
  have h2 : ((((last - first + 1 : Nat) : Int)) == 0) = false := by
    apply beq_false_of_ne; omega
  rw [h1, h2]; rfl

theorem prepare_rfc (isHead : Bool) (rng : Option Str) (size : Nat) (sp : RangeSpec)
    (hwf : sp.WF) (hz : sp ≠ .suffix 0) (h : httpRange rng = .ok (sliceOf sp)) :
    prepareOpenFile isHead true rng size =
      match rfcSlice sp size with
      | some (f, l) => partialPlan isHead size f l
      | none => unsatPlan size := by
  cases sp with
  | fromTo f _ | fromOn f =>
    -- `start = f` is not negative: from there to the stop, or to the end of the file
    simp only [RangeSpec.WF] at hwf
    have h0 : ¬ (f : Int) < 0 := by omega
    simp only [sliceOf] at h
    simp only [prepareOpenFile, h, rfcSlice, false_and, if_false, h0, Bool.not_true, Bool.false_eq_true]
    by_cases hlt : f < size
    · rw [if_neg (by omega), if_pos hlt]
      exact plan206_eq _ _ _ _ (by omega) _ _ rfl (by omega)
    · rw [if_pos (by omega), if_neg hlt]; rfl
  | suffix n =>
    have hn : n ≠ 0 := fun e => hz (e ▸ rfl)
    have h0 : -(n : Int) < 0 ∧ (none : Option Int).isNone = true := ⟨by omega, rfl⟩
    simp only [sliceOf] at h
    simp only [prepareOpenFile, h, rfcSlice, Bool.not_true, Bool.false_eq_true, if_false, if_pos h0, hn, false_or]
    by_cases hs : size = 0
    · subst hs
      have h3 : -(n : Int) + ((0 : Nat) : Int) < 0 := by omega
      simp only [if_pos h3, if_true]; rfl
    · -- the start is clamped to 0 when the suffix is longer than the file
      have hs2 : (if -(n : Int) + size < 0 then 0 else -(n : Int) + size) = ((size - min n size : Nat) : Int) := by
        omega
      simp only [hs, if_false, hs2]
      rw [if_neg (by omega)]
      exact plan206_eq _ _ _ _ (by omega) _ _ rfl (by omega)

theorem prepare_spec (isHead : Bool) (rng : Option Str) (size : Nat) (sp : RangeSpec)
    (hwf : sp.WF) (h : httpRange rng = .ok (sliceOf sp)) :
    prepareOpenFile isHead true rng size =
      match servedSlice sp size with
      | some (f, l) => partialPlan isHead size f l
      | none => unsatPlan size := by
  unfold servedSlice
  by_cases hz : sp = .suffix 0
  · subst hz
    exact prepare_rfc isHead rng size (.fromOn 0) trivial nofun h
  · rw [if_neg hz]
    exact prepare_rfc isHead rng size sp hwf hz h

theorem prepare_stale (isHead : Bool) (rng : Option Str) (size : Nat) :
    prepareOpenFile isHead false rng size = fullPlan isHead size := by
  simp [prepareOpenFile, fullPlan]

theorem prepare_no_range (isHead iro : Bool) (size : Nat) :
    prepareOpenFile isHead iro none size = fullPlan isHead size := by
  cases iro <;> simp [prepareOpenFile, fullPlan, httpRange]

theorem prepare_error (isHead : Bool) (rng : Option Str) (size : Nat) (h : httpRange rng = .error ()) :
    prepareOpenFile isHead true rng size = unsatPlan size := by
  simp [prepareOpenFile, unsatPlan, h, Gen.C15.stRangeNotSatisfiable]

/-- every plan `_prepare_open_file` can produce -/
theorem prepare_cases (isHead iro : Bool) (rng : Option Str) (size : Nat) :
    prepareOpenFile isHead iro rng size = fullPlan isHead size ∨
    prepareOpenFile isHead iro rng size = unsatPlan size ∨
    ∃ first last, first ≤ last ∧ last < size ∧
      prepareOpenFile isHead iro rng size = partialPlan isHead size first last := by
  cases iro with
  | false => left; exact prepare_stale _ _ _
  | true =>
    cases hr : httpRange rng with
    | error e => cases e; right; left; exact prepare_error _ _ _ hr
    | ok sl =>
      rcases httpRange_shape rng sl hr with ⟨rfl, _⟩ | ⟨sp, hwf, rfl⟩
      · left; exact prepare_no_range _ _ _
      · right
        rw [prepare_spec isHead rng size sp hwf hr]
        cases hs : servedSlice sp size with
        | none => left; rfl
        | some fl =>
          obtain ⟨hfl, hl⟩ := servedSlice_bounds (f := fl.1) (l := fl.2) hwf hs
          exact Or.inr ⟨_, _, hfl, hl, rfl⟩

theorem sendLoop_take (cs : Nat) (hcs : 0 < cs) :
    ∀ (fuel : Nat) (file : Bytes) (count : Nat), count < fuel →
      sendLoop cs fuel file count = file.take count := by
  intro fuel
  induction fuel with
  | zero => intro file count h; omega
  | succ fuel ih =>
    intro file count h
    -- the chunk read is `file.take c` for its own length `c`, which is at most `count`
    have hc : file.take (min cs count) = file.take (min (min cs count) file.length) := List.take_eq_take_min
    generalize hcd : min (min cs count) file.length = c at hc
    have hlen : (file.take c).length = c := by rw [List.length_take]; omega
    simp only [sendLoop, hc, hlen]
    split
    · next hemp =>
      have h0 : c = 0 := by rw [← hlen, List.isEmpty_iff.mp hemp]; rfl
      symm; apply List.eq_nil_of_length_eq_zero
      rw [List.length_take]; omega
    · next hne =>
      have h0 : c ≠ 0 := fun e => hne (by rw [e]; rfl)
      split
      · next hle => rw [show c = count by omega]
      · rw [ih _ _ (by omega), ← List.take_add, show c + (count - c) = count by omega]

theorem sendBytes_partial (cs : Nat) (hcs : 0 < cs) (content : Bytes) (first last : Nat) :
    sendBytes cs content (partialPlan false content.length first last) =
      (content.drop first).take (last - first + 1) := by
  simp only [sendBytes, partialPlan]
  simp
  exact sendLoop_take cs hcs _ _ _ (by omega)

theorem sendBytes_full (cs : Nat) (hcs : 0 < cs) (content : Bytes) :
    sendBytes cs content (fullPlan false content.length) = content := by
  simp only [sendBytes, fullPlan]
  by_cases h0 : content.length = 0
  · have : content = [] := List.eq_nil_of_length_eq_zero h0
    subst this; simp
  · simp [h0]
    rw [sendLoop_take cs hcs _ _ _ (by omega)]
    simp

theorem sendBytes_head (cs : Nat) (content : Bytes) (iro : Bool) (rng : Option Str) :
    sendBytes cs content (prepareOpenFile true iro rng content.length) = [] := by
  rcases prepare_cases true iro rng content.length with h | h | ⟨f, l, _, _, h⟩ <;>
    rw [h] <;> simp [sendBytes, fullPlan, unsatPlan, partialPlan]

end Aio.C15
