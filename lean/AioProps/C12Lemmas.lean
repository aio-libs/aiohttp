import AioModel.C12
import AioProps.Basics
/-! Lemmas for C12.  Every block of `_feed_data` has the same shape: it needs `want p` bytes; on
fewer it stops (`short`), otherwise it works on exactly that many (`onChunk`) and leaves the rest
alone.  `microK_eq` says so once; termination, fuel irrelevance, stability under appended input
and `loop` over `a ++ b` follow from it without looking at the four blocks again.  `toyInflater` is the inflater of the
examples. -/
namespace Aio.C12
open Aio

/-- a toy inflate function (drops the 4 trailing bytes, honours `max_length`) used for the
non-vacuity examples; the theorems hold for every `Inflater` -/
def toyInflater : Inflater where
  St := Unit
  init := ()
  inflate := fun _ d m =>
    let x := d.take (d.length - 4)
    ((), .ok (if m = 0 then x else x.take m))

variable {Z : Inflater}

theorem maskGo_length (d : Bytes) : ∀ k0 k1 k2 k3, (maskGo d k0 k1 k2 k3).length = d.length := by
  induction d with
  | nil => intros; rfl
  | cons b t ih => intros; simp only [maskGo, List.length_cons, ih]

theorem maskBytes_length (key d : Bytes) : (maskBytes key d).length = d.length := by
  unfold maskBytes
  split
  · exact maskGo_length ..
  · rfl

theorem hdrCore_ok {c : Cfg} {p p' : K Z} {b0 b1 : UInt8} (h : hdrCore c p b0 b1 = .ok p') :
    (∃ cz ff, p' = { p with compressed := cz, frameFin := ff, frameOpcode := b0.toNat % 16,
                            hasMask := b1.toNat / 128 = 1, lenFlag := b1.toNat % 128, phase := .len }) ∧
    Gen.C12.knownOpcodes.contains (b0.toNat % 16) = true ∧
    (b0.toNat % 16 > 7 → b1.toNat % 128 ≤ 125) := by
  revert h
  fun_cases hdrCore c p b0 b1 <;> intro h <;> cases h
  all_goals exact ⟨⟨_, _, rfl⟩, Decidable.not_not.mp ‹¬¬_›, fun h7 => Nat.le_of_not_gt fun h' => ‹¬(_ ∧ _ > 125)› ⟨h7, h'⟩⟩

theorem lenCore_ok {c : Cfg} {p p' : K Z} {n : Nat} :
    lenCore c p n = .ok p' ↔
      ¬ (c.maxMsgSize ≠ 0 ∧ (p.frameOpcode = 1 ∨ p.frameOpcode = 2 ∨ p.frameOpcode = 0) ∧
          n ≥ c.maxMsgSize - p.partialMsg.length) ∧
      p' = { p with toRead := n, phase := if p.hasMask then .mask else .payload } := by
  constructor
  · intro h
    obtain ⟨hno, h⟩ := ite_cases_ne h nofun
    cases h; exact ⟨hno, rfl⟩
  · rintro ⟨hno, rfl⟩; exact if_neg hno

def want (p : K Z) : Nat :=
  match p.phase with
  | .header => 2
  | .len => if p.lenFlag = 126 then 2 else if p.lenFlag > 126 then 8 else 0
  | .mask => 4
  | .payload => p.toRead

theorem want_payload {p : K Z} (h : p.phase = .payload) : want p = p.toRead := by
  unfold want; rw [h]

def short (p : K Z) (buf : Bytes) : StepK Z :=
  if p.phase = .payload then .park { p with toRead := p.toRead - buf.length, frags := p.frags ++ buf }
  else .need

def keep (p : K Z) : Except Err (K Z) → Except (K Z × Err) (K Z)
  | .error e => .error (p, e)
  | .ok p' => .ok p'

def onChunk (c : Cfg) (p : K Z) (ch : Bytes) : Except (K Z × Err) (K Z) :=
  match p.phase with
  | .header =>
    match ch with
    | b0 :: b1 :: _ => keep p (hdrCore c p b0 b1)
    | _ => .error (p, E1002)   -- never reached on `want p` bytes; an error, so that `.ok` always comes from the block
  | .len =>
    if p.lenFlag = 126 then
      match ch with
      | b0 :: b1 :: _ => keep p (lenCore c p (b0.toNat * 256 + b1.toNat))
      | _ => .error (p, E1002)
    else if p.lenFlag > 126 then
      if beNat ch > Gen.C12.maxPayloadLen then .error (p, E1009) else keep p (lenCore c p (beNat ch))
    else keep p (lenCore c p p.lenFlag)
  | .mask => .ok { p with mask := ch, phase := .payload }
  | .payload =>
    match handleFrame c { p with toRead := 0, frags := [] } p.frameFin p.frameOpcode
        (if p.hasMask then maskBytes p.mask (p.frags ++ ch) else p.frags ++ ch) p.compressed with
    | .error pe => .error pe
    | .ok p2 => .ok { p2 with phase := .header }

def StepK.ofExcept : Except (K Z × Err) (K Z) → Bytes → StepK Z
  | .error (pe, e), _ => .fail pe e
  | .ok p', rest => .adv p' rest

theorem setLen_eq (c : Cfg) (p : K Z) (n : Nat) (rest : Bytes) :
    setLen c p n rest = .ofExcept (keep p (lenCore c p n)) rest := by
  unfold setLen; cases lenCore c p n <;> rfl

theorem microK_eq (c : Cfg) (p : K Z) (buf : Bytes) :
    microK c p buf =
      if buf.length < want p then short p buf
      else .ofExcept (onChunk c p (buf.take (want p))) (buf.drop (want p)) := by
  unfold microK want short onChunk
  cases hph : p.phase with
  | header =>
    unfold hdrStep
    dsimp only
    match buf with
    | [] | [_] => rfl
    | b0 :: b1 :: rest =>
      rw [if_neg (show ¬ (b0 :: b1 :: rest).length < 2 from Nat.not_lt.mpr (Nat.le_add_left 2 _))]
      simp only [List.take_succ_cons, List.take_zero, List.drop_succ_cons, List.drop_zero]
      cases hdrCore c p b0 b1 <;> rfl
  | len =>
    unfold lenStep
    dsimp only
    by_cases h126 : p.lenFlag = 126
    · simp only [h126, if_true]
      match buf with
      | [] | [_] => rfl
      | b0 :: b1 :: rest =>
        rw [if_neg (show ¬ (b0 :: b1 :: rest).length < 2 from Nat.not_lt.mpr (Nat.le_add_left 2 _))]
        simp only [List.take_succ_cons, List.take_zero, List.drop_succ_cons, List.drop_zero]
        exact setLen_eq ..
    · simp only [h126, if_false]
      by_cases hgt : p.lenFlag > 126
      · simp only [hgt, if_true]
        split
        · rfl
        · split
          · rfl
          · exact setLen_eq ..
      · simp only [hgt, if_false]; exact setLen_eq ..
  | mask => rfl
  | payload =>
    unfold payStep
    dsimp only
    by_cases hs : buf.length < p.toRead
    · have hm : min p.toRead buf.length = buf.length := Nat.min_eq_right (Nat.le_of_lt hs)
      have hnz : p.toRead - buf.length ≠ 0 := Nat.sub_ne_zero_of_lt hs
      simp only [hm, hs, hnz, hph, List.take_length, if_true, ne_eq, not_false_eq_true]
    · have hm : min p.toRead buf.length = p.toRead := Nat.min_eq_left (Nat.le_of_not_lt hs)
      simp only [hm, hs, hph, Nat.sub_self, if_false, ne_eq, not_true_eq_false]
      generalize handleFrame c _ _ _ _ _ = r
      rcases r with ⟨pe, e⟩ | p2 <;> rfl

/-- a block that may consume no byte (a 7-bit length, the payload of an empty frame) leads to a phase of lower rank -/
def rank : Phase → Nat
  | .header => 0 | .payload => 1 | .mask => 2 | .len => 3

/-- every block lowers this (`onChunk_bound`), so the loop goes round at most that many times more -/
def bound (p : K Z) (buf : Bytes) : Nat := 4 * buf.length + rank p.phase

theorem rank_le (ph : Phase) : rank ph ≤ 3 := by cases ph <;> decide

theorem keep_ok {p q : K Z} {r : Except Err (K Z)} (h : keep p r = .ok q) : r = .ok q := by
  cases r <;> cases h; rfl

theorem lenCore_rank {c : Cfg} {p q : K Z} {n : Nat} (h : lenCore c p n = .ok q) : rank q.phase < 3 := by
  rw [(lenCore_ok.mp h).2]; dsimp only; cases p.hasMask <;> decide

theorem onChunk_bound {c : Cfg} {p q : K Z} {buf : Bytes} (hw : want p ≤ buf.length)
    (h : onChunk c p (buf.take (want p)) = .ok q) : bound q (buf.drop (want p)) < bound p buf := by
  have : rank q.phase < rank p.phase + 4 * want p := by
    revert h
    generalize buf.take (want p) = ch
    unfold onChunk want
    cases p.phase <;> dsimp only <;> intro h
    · exact Nat.lt_of_le_of_lt (rank_le _) (by decide)
    · refine Nat.lt_of_lt_of_le ?_ (Nat.le_add_right 3 _)
      by_cases h126 : p.lenFlag = 126
      · rw [if_pos h126] at h
        match ch, h with
        | _ :: _ :: _, h => exact lenCore_rank (keep_ok h)
        | [], h | [_], h => cases h
      · rw [if_neg h126] at h
        by_cases hgt : p.lenFlag > 126
        · rw [if_pos hgt] at h
          exact lenCore_rank (keep_ok (ite_cases_ne h nofun).2)
        · rw [if_neg hgt] at h
          exact lenCore_rank (keep_ok h)
    · cases h; exact Nat.lt_add_right _ (Nat.lt_succ_self 1)
    · generalize handleFrame c _ _ _ _ _ = r at h
      rcases r with _ | p2 <;> cases h; exact Nat.lt_add_right _ Nat.zero_lt_one
  unfold bound; rw [List.length_drop]; omega

/-- the reader seen without the segmentation-dependent items -/
structure RK (Z : Inflater) where
  k : K Z
  tail : Bytes
  exc : Option Err

/-- `loop` on the segmentation-independent state -/
def loopK (c : Cfg) : Nat → K Z → Bytes → RK Z
  | 0, p, buf => { k := p, tail := buf, exc := none }
  | fuel + 1, p, buf =>
    match microK c p buf with
    | .need => { k := p, tail := buf, exc := none }
    | .park p' => { k := p', tail := [], exc := none }
    | .fail pe e => { k := pe, tail := [], exc := some e }
    | .adv p' rest => loopK c fuel p' rest

def Reader.core (r : Reader Z) : RK Z := { k := r.p.k, tail := r.tail, exc := r.exc }

/-- the loop with the fuel `feed` gives it (`loopK_fuel`: any larger amount does the same) -/
def runK (c : Cfg) (p : K Z) (buf : Bytes) : RK Z := loopK c (fuelFor buf) p buf

/-- `feed` on the segmentation-independent state -/
def feedK (c : Cfg) (r : RK Z) (d : Bytes) : RK Z :=
  if r.exc.isSome then r else runK c r.k (r.tail ++ d)

theorem loopK_succ (c : Cfg) (f : Nat) (p : K Z) (buf : Bytes) :
    loopK c (f + 1) p buf =
      match microK c p buf with
      | .need => { k := p, tail := buf, exc := none }
      | .park p' => { k := p', tail := [], exc := none }
      | .fail pe e => { k := pe, tail := [], exc := some e }
      | .adv p' rest => loopK c f p' rest := rfl

theorem loop_core (c : Cfg) : ∀ (f : Nat) (p : P Z) (buf : Bytes),
    (loop c f p buf).core = loopK c f p.k buf := by
  intro f
  induction f with
  | zero => intro p buf; rfl
  | succ n ih =>
    intro p buf
    simp only [loop, loopK, micro]
    cases microK c p.k buf with
    | adv k' rest => exact ih ..
    | _ => rfl

theorem feed_core (c : Cfg) (r : Reader Z) (d : Bytes) : (feed c r d).core = feedK c r.core d := by
  unfold feed feedK
  by_cases h : r.exc.isSome
  · rw [if_pos h, if_pos (show r.core.exc.isSome = true from h)]
  · rw [if_neg h, if_neg (show ¬ r.core.exc.isSome = true from h)]; exact loop_core ..

theorem loopK_fuel {c : Cfg} : ∀ (f1 f2 : Nat) (p : K Z) (buf : Bytes),
    bound p buf < f1 → bound p buf < f2 → loopK c f1 p buf = loopK c f2 p buf := by
  intro f1
  induction f1 with
  | zero => intro f2 p buf h; omega
  | succ n ih =>
    intro f2 p buf h1 h2
    obtain ⟨m, rfl⟩ : ∃ m, f2 = m + 1 := ⟨f2 - 1, by omega⟩
    rw [loopK_succ, loopK_succ, microK_eq]
    by_cases hs : buf.length < want p
    · rw [if_pos hs]
      unfold short
      by_cases hph : p.phase = .payload
      · rw [if_pos hph]
      · rw [if_neg hph]
    · rw [if_neg hs]
      cases hr : onChunk c p (buf.take (want p)) with
      | error pe => rfl
      | ok q =>
        have := onChunk_bound (Nat.le_of_not_lt hs) hr
        exact ih m q _ (by omega) (by omega)

theorem fuelFor_succ (buf : Bytes) : fuelFor buf = (4 * buf.length + 7) + 1 := rfl

theorem bound_lt_fuelFor (p : K Z) (buf : Bytes) : bound p buf < fuelFor buf := by
  have := rank_le p.phase
  unfold bound fuelFor; omega

/-- `runK` unfolded once; from here on fuel is not mentioned again -/
theorem runK_eq (c : Cfg) (p : K Z) (buf : Bytes) :
    runK c p buf =
      if buf.length < want p then
        if p.phase = .payload then
          { k := { p with toRead := p.toRead - buf.length, frags := p.frags ++ buf }, tail := [], exc := none }
        else { k := p, tail := buf, exc := none }
      else
        match onChunk c p (buf.take (want p)) with
        | .error (pe, e) => { k := pe, tail := [], exc := some e }
        | .ok q => runK c q (buf.drop (want p)) := by
  unfold runK
  rw [fuelFor_succ, loopK_succ, microK_eq]
  by_cases hs : buf.length < want p
  · rw [if_pos hs, if_pos hs]
    unfold short
    by_cases hph : p.phase = .payload
    · rw [if_pos hph, if_pos hph]
    · rw [if_neg hph, if_neg hph]
  · rw [if_neg hs, if_neg hs]
    cases hr : onChunk c p (buf.take (want p)) with
    | error pe => rfl
    | ok q =>
      have := onChunk_bound (Nat.le_of_not_lt hs) hr
      have := bound_lt_fuelFor p buf
      exact loopK_fuel _ _ _ _ (by rw [fuelFor_succ] at this; omega) (bound_lt_fuelFor ..)

theorem runK_induct (c : Cfg) {M : K Z → Bytes → Prop}
    (stop : ∀ p buf, buf.length < want p → M p buf)
    (fail : ∀ p buf pe e, want p ≤ buf.length → onChunk c p (buf.take (want p)) = .error (pe, e) → M p buf)
    (step : ∀ p buf q, want p ≤ buf.length → onChunk c p (buf.take (want p)) = .ok q →
      M q (buf.drop (want p)) → M p buf) :
    ∀ p buf, M p buf := by
  intro p buf
  generalize hn : bound p buf = n
  induction n using Nat.strongRecOn generalizing p buf with
  | _ n ih =>
    by_cases hs : buf.length < want p
    · exact stop p buf hs
    · cases hr : onChunk c p (buf.take (want p)) with
      | error pe => exact fail p buf pe.1 pe.2 (Nat.le_of_not_lt hs) hr
      | ok q =>
        exact step p buf q (Nat.le_of_not_lt hs) hr
          (ih _ (hn ▸ onChunk_bound (Nat.le_of_not_lt hs) hr) q _ rfl)

theorem runK_full (c : Cfg) {p : K Z} {a : Bytes} (h : want p ≤ a.length) (b : Bytes) :
    runK c p (a ++ b) =
      match onChunk c p (a.take (want p)) with
      | .error (pe, e) => { k := pe, tail := [], exc := some e }
      | .ok q => runK c q (a.drop (want p) ++ b) := by
  rw [runK_eq, if_neg (by rw [List.length_append]; omega), List.take_append_of_le_length h,
    List.drop_append_of_le_length h]

theorem runK_adv (c : Cfg) {p q : K Z} {ch : Bytes} (hw : ch.length = want p) (ho : onChunk c p ch = .ok q)
    (more : Bytes) : runK c p (ch ++ more) = runK c q more := by
  rw [runK_full c (Nat.le_of_eq hw.symm), List.take_of_length_le (Nat.le_of_eq hw),
    List.drop_of_length_le (Nat.le_of_eq hw), List.nil_append, ho]

theorem runK_park_append (c : Cfg) {p : K Z} {a : Bytes} (hph : p.phase = .payload)
    (hs : a.length < p.toRead) (b : Bytes) :
    runK c p (a ++ b) = runK c { p with toRead := p.toRead - a.length, frags := p.frags ++ a } b := by
  have hw' : want { p with toRead := p.toRead - a.length, frags := p.frags ++ a } = p.toRead - a.length :=
    want_payload hph
  rw [runK_eq, runK_eq c _ b, want_payload hph, hw', List.length_append]
  by_cases hb : b.length < p.toRead - a.length
  · rw [if_pos hb, if_pos (by omega)]
    simp only [hph, if_true, List.append_assoc, Nat.sub_sub]
  · rw [if_neg hb, if_neg (by omega), List.take_append, List.drop_append,
      List.take_of_length_le (Nat.le_of_lt hs), List.drop_of_length_le (Nat.le_of_lt hs)]
    simp only [onChunk, hph, List.append_assoc, List.nil_append]

/-- batch = incremental for the `while` loop: running on `a ++ b` is running on `a`, then feeding `b` -/
theorem runK_append (c : Cfg) : ∀ (p : K Z) (a b : Bytes), runK c p (a ++ b) = feedK c (runK c p a) b := by
  refine runK_induct c (fun p a hs b => ?_) (fun p a pe e hfull hr b => ?_) fun p a q hfull hr ih b => ?_
  · rw [runK_eq c p a, if_pos hs]
    by_cases hph : p.phase = .payload
    · rw [if_pos hph]
      exact runK_park_append c hph (want_payload hph ▸ hs) b
    · rw [if_neg hph]; rfl
  · rw [runK_full c hfull, runK_eq c p a, if_neg (Nat.not_lt.mpr hfull), hr]; rfl
  · rw [runK_full c hfull, runK_eq c p a, if_neg (Nat.not_lt.mpr hfull), hr]; exact ih b

end Aio.C12
