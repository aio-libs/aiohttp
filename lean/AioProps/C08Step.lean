import AioProps.C08Post
/-! C08: every operation keeps the step-level invariant `SInv`, and `core` meets `CoreSpec`:
the producer operations by what they set, the consumer calls through `Post`. -/
namespace Aio.C08
open Aio

structure SInv (s : S) : Prop where
  inv : Inv s
  accok : AccOk s
  deliv : s.lost = false → s.delivered ++ pendAcc s = s.taken

structure CoreSpec (s : S) (r : S × Out) : Prop where
  inv : Inv r.1
  accok : AccOk r.1
  delivered : r.1.delivered = s.delivered
  deliv : r.1.lost = false → s.delivered ++ outBytes r.2 ++ pendAcc r.1 = r.1.taken
  pinv : PInv s → PInv r.1
  xinv : XInv s → XInv r.1
  recheck : r.1.recheck = s.recheck
  blocked : r.2 = .blocked → r.1.waiter = true

theorem iterOut_blocked (it : Bool) (o : Out) (h : iterOut it o = .blocked) : o = .blocked := by
  unfold iterOut at h
  split at h
  · split at h <;> first | exact h | cases h
  · exact h

theorem iterOut_err (it : Bool) (e : Err) : iterOut it (.err e) = .err e := by cases it <;> rfl

theorem outBytes_iterOut (it : Bool) (o : Out) : outBytes (iterOut it o) = outBytes o := by
  unfold iterOut
  split
  · split <;> simp [outBytes]
  · rfl

theorem post_core {s : S} (hs : SInv s) {acc : Bytes} {r : S × Out} (hacc : pendAcc s = acc)
    (h : Post s acc r) (it : Bool) : CoreSpec s (r.1, iterOut it r.2) := by
  obtain ⟨⟨d, hr, hd⟩, -, hbl, ha⟩ := h
  have hf := reach_frame hs.inv hr
  have ht := reach_taken hs.inv hr
  refine ⟨reach_inv hs.inv hr, ha, hf.delivered, ?_, fun hp => pinv_reach hs.inv hp hr, fun hx => xinv_reach hs.inv hx hr, hf.recheck,
    fun hb => hbl (iterOut_blocked it _ hb)⟩
  intro (hl : r.1.lost = false)
  have hl0 : s.lost = false := Bool.eq_false_iff.mpr fun h => by rw [hf.lost h] at hl; cases hl
  simp only [outBytes_iterOut]
  rw [ht.1, ← hs.deliv hl0, hacc, List.append_assoc, List.append_assoc, hd hl]

/-- producer-side operations leave the consumer bookkeeping alone -/
structure ProdFrame (s : S) (r : S × Out) : Prop where
  parked : r.1.parked = s.parked
  taken : r.1.taken = s.taken
  delivered : r.1.delivered = s.delivered
  lost : r.1.lost = s.lost
  recheck : r.1.recheck = s.recheck
  out : outBytes r.2 = []
  nb : r.2 ≠ .blocked

theorem prod_core {s : S} (hs : SInv s) {r : S × Out} (hi : Inv r.1) (h : ProdFrame s r)
    (hpi : PInv s → PInv r.1) (hxi : XInv s → XInv r.1) : CoreSpec s r := by
  refine ⟨hi, ?_, h.delivered, ?_, hpi, hxi, h.recheck, fun hb => absurd hb h.nb⟩
  · intro p hp; rw [h.parked] at hp; exact hs.accok p hp
  · intro hl
    rw [h.lost] at hl
    have := hs.deliv hl
    rw [h.out, h.taken, ← this]
    simp [pendAcc, h.parked]

theorem same_core {s : S} (hs : SInv s) (o : Out) (ho : outBytes o = []) (hb : o ≠ .blocked) : CoreSpec s (s, o) :=
  prod_core hs hs.inv ⟨rfl, rfl, rfl, rfl, rfl, ho, hb⟩ id id

theorem off_le_flatten {s : S} (hi : Inv s) : s.off ≤ s.bufs.flatten.length := by
  cases hb : s.bufs with
  | nil => rw [hi.off_nil hb]; simp
  | cons b t => have := hi.off_lt b t hb; simp; omega

/-- `feed_data(d)`, `d ≠ b""`, whatever the wake-up and the pause decision come to -/
theorem feed_outcome {s : S} (hs : SInv s) {d : Bytes} (hd : d ≠ []) {f : Fut} {p tp : Bool} {ev : List Ev}
    (hf : f ≠ .pending) (htp : s.connected = true → tp = true → p = true)
    (hbd : p = false → s.eof = false → s.size + d.length ≤ s.high ∧ nsplits s ≤ s.highChunks) :
    CoreSpec s ({ s with size := s.size + d.length, bufs := s.bufs ++ [d], total := s.total + d.length,
                         fed := s.fed ++ d, waiter := false, fut := f, paused := p, tpaused := tp,
                         evs := ev }, .ok) := by
  have hi := hs.inv
  have hc := inv_ctl hi false f p tp ev nofun (fun h => absurd h hf) htp
    (fun hp he => ⟨Nat.le_trans (Nat.le_add_right _ _) (hbd hp he).1, (hbd hp he).2⟩)
  have hrest : (s.bufs ++ [d]).flatten.drop s.off = rest s ++ d := by
    simp only [rest, List.flatten_append, List.flatten_cons, List.flatten_nil, List.append_nil]
    exact List.drop_append_of_le_length (off_le_flatten hi)
  exact prod_core hs
    { hc with
      nonempty := by
        intro b hb
        rcases List.mem_append.mp hb with h | h
        · exact hi.nonempty b h
        · rw [List.mem_singleton.mp h]; exact hd
      off_lt := by
        intro b t hbt
        show s.off < b.length
        cases hb : s.bufs with
        | nil =>
          rw [hb] at hbt
          cases hbt
          rw [hi.off_nil hb]
          exact List.length_pos_iff.mpr hd
        | cons b0 t0 =>
          rw [hb] at hbt
          cases hbt
          exact hi.off_lt _ _ hb
      off_nil := fun h => absurd h (by simp)
      size_eq := by
        show s.size + d.length = ((s.bufs ++ [d]).flatten.drop s.off).length
        rw [hrest, List.length_append, ← hi.size_eq]
      cons := by
        show s.taken ++ (s.bufs ++ [d]).flatten.drop s.off = s.fed ++ d
        rw [hrest, ← List.append_assoc, hi.cons]
      total_eq := by show s.total + d.length = (s.fed ++ d).length; rw [hi.total_eq, List.length_append]
      range := fun l hl q hq => ⟨(hi.range l hl q hq).1, Nat.le_add_right_of_le (hi.range l hl q hq).2⟩
      bounded := hbd
      waiter_parked := nofun
      waiter_empty := nofun }
    ⟨rfl, rfl, rfl, rfl, rfl, rfl, nofun⟩
    (fun hp => ⟨hp.lowpos, fun _ => by show s.bufs ++ [d] ≠ []; simp⟩) (fun _ _ _ => rfl)

theorem feed_core {s : S} (hs : SInv s) (d : Bytes) : CoreSpec s (feed s d) := by
  unfold feed
  refine ite_elim (CoreSpec s) (fun _ => same_core hs _ rfl nofun) fun _ => ?_
  refine ite_elim (CoreSpec s) (fun _ => same_core hs _ rfl nofun) fun hd => ?_
  have hd : d ≠ [] := by simpa using hd
  have hi := hs.inv
  simp only [wake_eq, pauseReading_eq]
  exact ite_elim (fun x => CoreSpec s (x, .ok))
    (fun _ => feed_outcome hs hd (wake_ne_pending hi nofun) (fun _ _ => rfl) nofun)
    fun hle => feed_outcome hs hd (wake_ne_pending hi nofun) hi.tp
      (fun hp he => ⟨Nat.le_of_not_gt hle, (hi.bounded hp he).2⟩)

theorem beginChunk_core {s : S} (hs : SInv s) : CoreSpec s (beginChunk s) := by
  unfold beginChunk
  split
  · exact same_core hs _ rfl nofun
  split
  · exact same_core hs _ rfl nofun
  · exact prod_core hs
      { hs.inv with
        sorted := fun l hl => by cases hl; exact List.Pairwise.nil
        range := fun l hl q hq => by cases hl; cases hq
        inb := fun l hl q hq => by cases hl; cases hq
        bounded := fun hp he => ⟨(hs.inv.bounded hp he).1, Nat.zero_le _⟩ }
      ⟨rfl, rfl, rfl, rfl, rfl, rfl, nofun⟩ (fun hp => hp.congr rfl rfl rfl) id

theorem lt_of_last_ne {t : Nat} {l : List Nat} (hs : l.Pairwise (· < ·)) (hle : ∀ p ∈ l, p ≤ t)
    (hne : l.getLast?.getD 0 ≠ t) : ∀ a ∈ l, a < t := by
  rcases List.eq_nil_or_concat l with rfl | ⟨l', x, rfl⟩
  · nofun
  · rw [List.concat_eq_append] at hs hle hne ⊢
    rw [List.getLast?_concat] at hne
    have hx : x < t := Nat.lt_of_le_of_ne (hle x (List.mem_append_right _ (List.mem_singleton_self x))) hne
    intro a ha
    rcases List.mem_append.mp ha with h | h
    · exact Nat.lt_trans ((List.pairwise_append.mp hs).2.2 a h x (List.mem_singleton_self x)) hx
    · rw [List.mem_singleton.mp h]; exact hx

/-- `end_http_chunk_receiving()` recording a new split, whatever the wake-up and the pause decision come to -/
theorem endChunk_outcome {s : S} (hs : SInv s) {sp : List Nat} (hsp : s.splits = some sp) (hlt : ∀ a ∈ sp, a < s.total)
    {f : Fut} {p tp : Bool} {ev : List Ev} (hf : f ≠ .pending) (htp : s.connected = true → tp = true → p = true)
    (hbd : p = false → s.eof = false → s.size ≤ s.high ∧ sp.length + 1 ≤ s.highChunks)
    (hpn : p = true → s.paused = true ∨ s.bufs ≠ []) :
    CoreSpec s ({ s with bounds := s.bounds ++ [s.total], splits := some (sp ++ [s.total]), waiter := false,
                         fut := f, paused := p, tpaused := tp, evs := ev }, .ok) := by
  have hi := hs.inv
  have hc := inv_ctl hi false f p tp ev nofun (fun h => absurd h hf) htp (fun hp he => ⟨(hbd hp he).1, by
    have := (hbd hp he).2; show nsplits s ≤ _; simp only [nsplits, hsp]; omega⟩)
  exact prod_core hs
    { hc with
      sorted := fun l hl => by
        cases hl
        exact List.pairwise_append.mpr ⟨hi.sorted sp hsp, List.pairwise_singleton _ _,
          fun a ha b hb => by cases List.mem_singleton.mp hb; exact hlt a ha⟩
      range := fun l hl q hq => by
        cases hl
        rcases List.mem_append.mp hq with h | h
        · exact hi.range sp hsp q h
        · cases List.mem_singleton.mp h; exact ⟨cursor_le_total (s := s) hi, Nat.le_refl _⟩
      inb := fun l hl q hq => by
        cases hl
        rcases List.mem_append.mp hq with h | h
        · exact List.mem_append_left _ (hi.inb sp hsp q h)
        · exact List.mem_append_right _ h
      bounded := fun hp he => ⟨(hbd hp he).1, by
        show (sp ++ [s.total]).length ≤ _; rw [List.length_append]; exact (hbd hp he).2⟩ }
    ⟨rfl, rfl, rfl, rfl, rfl, rfl, nofun⟩
    (fun hp => ⟨hp.lowpos, fun h => (hpn h).elim hp.paused_nonempty id⟩) (fun _ _ _ => rfl)

theorem endChunk_core {s : S} (hs : SInv s) : CoreSpec s (endChunk s) := by
  have hi := hs.inv
  unfold endChunk
  split
  · exact same_core hs _ rfl nofun
  rename_i sp hsp
  simp only []
  refine ite_elim (CoreSpec s) (fun _ => prod_core hs
      { hi with inb := fun l hl q hq => List.mem_append_left _ (hi.inb l hl q hq) }
      ⟨rfl, rfl, rfl, rfl, rfl, rfl, nofun⟩ (fun hp => hp.congr rfl rfl rfl) id) fun hne => ?_
  have hlt := lt_of_last_ne (hi.sorted sp hsp) (fun q hq => (hi.range sp hsp q hq).2) (Ne.symm hne)
  have hbd := hi.bounded
  simp only [nsplits, hsp] at hbd
  refine ite_elim (fun x => CoreSpec s (wake x, .ok)) (fun hov => ?_) fun hle => ?_
  · simp only [wake_eq, pauseReading_eq]
    -- more than `highChunks ≥ 2` pending splits cannot sit on an empty buffer
    refine endChunk_outcome hs hsp hlt (wake_ne_pending hi nofun) (fun _ _ => rfl) nofun (fun _ => .inr fun hb => ?_)
    have := nsplits_le_one hi hb
    have := hi.lwc
    simp only [nsplits, hsp] at *
    omega
  · rw [wake_eq]
    exact endChunk_outcome hs hsp hlt (wake_ne_pending hi nofun) hi.tp
      (fun hp he => ⟨(hbd hp he).1, Nat.le_of_not_gt hle⟩) .inl

theorem feedEof_core {s : S} (hs : SInv s) : CoreSpec s (feedEof s) := by
  have hi : Inv { s with eof := true } := { hs.inv with bounded := fun _ h => nomatch h }
  simp only [feedEof, wake_eq, resumeReading_eq]
  exact prod_core hs
    (inv_ctl hi false _ false _ _ nofun (fun h => absurd h (wake_ne_pending hs.inv nofun))
      (fun (hc : s.connected = true) ht => by simp [hc] at ht) (fun _ h => nomatch h))
    ⟨rfl, rfl, rfl, rfl, rfl, rfl, nofun⟩ (fun hp => ⟨hp.lowpos, nofun⟩) (fun _ _ _ => rfl)

theorem setExc_core {s : S} (hs : SInv s) (e : Nat) : CoreSpec s (setExc s e) := by
  have hi : Inv { s with exc := some e } := { hs.inv with }
  simp only [setExc, wakeExc_eq]
  exact prod_core hs
    (inv_ctl hi false _ _ _ _ nofun (fun h => absurd h (wake_ne_pending hs.inv nofun)) hs.inv.tp hs.inv.bounded)
    ⟨rfl, rfl, rfl, rfl, rfl, rfl, nofun⟩ (fun hp => hp.congr rfl rfl rfl) (fun _ _ _ => rfl)

theorem setChunk_core {s : S} (hs : SInv s) (n : Nat) : CoreSpec s (setChunk s n, .ok) :=
  prod_core hs (setChunk_inv hs.inv n) (by unfold setChunk; split <;> exact ⟨rfl, rfl, rfl, rfl, rfl, rfl, nofun⟩)
    (fun hp => pinv_move hs.inv hp (.setChunk s n)) (fun hx => xinv_move hx (.setChunk s n))

theorem post_inv {s : S} {acc : Bytes} {r : S × Out} (hi : Inv s) (h : Post s acc r) : Inv r.1 := by
  obtain ⟨⟨d, hr, -⟩, -, -, -⟩ := h
  exact reach_inv hi hr

theorem doReadNowait_core {s : S} (hs : SInv s) (n : Option Nat) : CoreSpec s (doReadNowait s n) := by
  unfold doReadNowait
  refine ite_elim (CoreSpec s) (fun _ => same_core hs _ rfl nofun) fun hc => ?_
  split
  · -- raising with nothing taken leaves `lost` as it is
    exact prod_core hs { hs.inv with } ⟨rfl, rfl, rfl, Bool.or_false _, rfl, rfl, nofun⟩
      (fun hp => hp.congr rfl rfl rfl) id
  refine ite_elim (CoreSpec s) (fun _ => same_core hs _ rfl nofun) fun hw => ?_
  have hp : s.parked = none := by
    cases h : s.parked with
    | none => rfl
    | some _ => simp [h, hw] at hc
  exact post_core hs (by rw [pendAcc, hp]) (post_readNowait hs.inv hp n) false

theorem consumer_core {s : S} (hs : SInv s) (it : Bool) (f : S → S × Out)
    (hf : s.parked = none → Post s [] (f s)) : CoreSpec s (consumer s it f) := by
  refine ite_elim (CoreSpec s) (fun _ => same_core hs _ rfl nofun) fun hp => ?_
  have hp' : s.parked = none := by simpa using hp
  exact post_core hs (by simp [pendAcc, hp']) (hf hp') it

theorem core_spec {s : S} (hs : SInv s) (op : Op) : CoreSpec s (core s op) := by
  cases op with
  | feed d => exact feed_core hs d
  | beginChunk => exact beginChunk_core hs
  | endChunk => exact endChunk_core hs
  | feedEof => exact feedEof_core hs
  | setExc e => exact setExc_core hs e
  | disconnect =>
    exact prod_core hs { hs.inv with tp := nofun } ⟨rfl, rfl, rfl, rfl, rfl, rfl, nofun⟩
      (fun hp => hp.congr rfl rfl rfl) id
  | setChunkSize n => exact setChunk_core hs n
  | read n it =>
    refine consumer_core hs it (fun s => startRead (if it = true then setChunk s (n.getD 0) else s) n it) (fun hp => ?_)
    split
    · exact post_setChunk hs.inv hp _ fun hi hp => startRead_post hi hp n it
    · exact startRead_post hs.inv hp n it
  | readAny it => exact consumer_core hs it (fun s => startReadAny s it) (fun hp => startReadAny_post hs.inv hp it)
  | readUntil sep m it =>
    exact consumer_core hs it (fun s => startReadUntil s sep m it) (fun hp => startReadUntil_post hs.inv hp sep m it)
  | readExactly n =>
    exact consumer_core hs false (fun s => startReadExactly s n) (fun hp => startReadExactly_post hs.inv hp n)
  | readChunk it => exact consumer_core hs it (fun s => contReadChunk s it) (fun hp => contReadChunk_post hs.inv hp it)
  | readNowait n => exact doReadNowait_core hs n
  | wakeup =>
    simp only [core]
    split
    · exact same_core hs _ rfl nofun
    · rename_i p hpk
      split
      · exact same_core hs _ rfl nofun
      · rename_i hw
        have hw' : s.waiter = false := by simpa using hw
        exact post_core hs (by simp [pendAcc, hpk]) (resume_post hs.inv p hw' hpk hs.accok) p.iter

theorem step_fst (s : S) (op : Op) : (step s op).1 =
    { (core { s with evs := [] } op).1 with
      delivered := (core { s with evs := [] } op).1.delivered ++ outBytes (core { s with evs := [] } op).2 } := rfl

theorem step_core {s : S} (hs : SInv s) (op : Op) : CoreSpec s (core { s with evs := [] } op) := by
  have hc := core_spec (s := { s with evs := [] }) ⟨{ hs.inv with }, hs.accok, hs.deliv⟩ op
  exact ⟨hc.inv, hc.accok, hc.delivered, hc.deliv, fun hp => hc.pinv (hp.congr rfl rfl rfl), hc.xinv,
    hc.recheck, hc.blocked⟩

theorem step_sinv {s : S} (hs : SInv s) (op : Op) : SInv (step s op).1 := by
  have hc := step_core hs op
  rw [step_fst]
  generalize core { s with evs := [] } op = c at hc
  exact ⟨{ hc.inv with }, hc.accok, fun hl => by
    show c.1.delivered ++ outBytes c.2 ++ pendAcc c.1 = _; rw [hc.delivered]; exact hc.deliv hl⟩

theorem exec_induct {P : S → Prop} (hstep : ∀ {s} op, SInv s → P s → P (step s op).1) {s : S} (hs : SInv s)
    (hp : P s) (ops : List Op) : P (exec s ops) := by
  induction ops generalizing s with
  | nil => exact hp
  | cons op ops ih => exact ih (step_sinv hs op) (hstep op hs hp)

theorem exec_sinv {s : S} (hs : SInv s) (ops : List Op) : SInv (exec s ops) :=
  exec_induct (fun op hs _ => step_sinv hs op) hs hs ops

theorem exec_recheck {s : S} (hs : SInv s) (ops : List Op) : (exec s ops).recheck = s.recheck :=
  exec_induct (P := fun t => t.recheck = s.recheck)
    (fun op ht h => by rw [step_fst]; exact (step_core ht op).recheck.trans h) hs rfl ops

theorem exec_xinv {s : S} (hs : SInv s) (hx : XInv s) (ops : List Op) : XInv (exec s ops) :=
  exec_induct (P := XInv) (fun op ht h => by rw [step_fst]; exact (step_core ht op).xinv h) hs hx ops

theorem exec_pinv {s : S} (hs : SInv s) (hp : PInv s) (ops : List Op) : PInv (exec s ops) :=
  exec_induct (P := PInv)
    (fun op ht h => by
      rw [step_fst]; exact ((step_core ht op).pinv h).congr rfl rfl rfl)
    hs hp ops

theorem initF_inv (f : Bool) (limit : Nat) : Inv (initF f limit) where
  nonempty := nofun
  off_lt := nofun
  off_nil _ := rfl
  size_eq := rfl
  cons := rfl
  cursor_eq := rfl
  total_eq := rfl
  sorted := nofun
  range := nofun
  inb := nofun
  high_eq := rfl
  lwc := ⟨(Nat.le_div_iff_mul_le Nat.two_pos).mpr (Nat.le_max_left Gen.C08.chunkFloor _), Nat.div_le_self _ _⟩
  tp := nofun
  bounded _ _ := ⟨Nat.zero_le _, Nat.zero_le _⟩
  waiter_parked := nofun
  waiter_empty := nofun
  fut_pending := nofun

theorem init_inv (limit : Nat) : Inv (init limit) := initF_inv _ limit

theorem initF_sinv (f : Bool) (limit : Nat) : SInv (initF f limit) :=
  ⟨initF_inv f limit, accok_of_none rfl, fun _ => rfl⟩

theorem init_sinv (limit : Nat) : SInv (init limit) := initF_sinv _ limit

end Aio.C08
