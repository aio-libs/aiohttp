import AioProps.ChunkLoop
import AioProps.C10
/-!
# C10: what the chunked body parser keeps between reads is bounded — for every run

`chunk_tail_bounded` (C10.lean) is the one-step fact: a buffered partial chunk-size / trailer line
that passes the early check is at most `limit + 1` long.  This file lifts it to every call:

* `chunkedLoop_tail`: whatever `chunkedLoop` saves for the next call is a piece of the bytes it
  was given (no longer than them), and it saves nothing while it is inside chunk data;
* `payloadFeed_retained`: after a call of `HttpPayloadParser.feed_data(d)` that neither completes
  nor raises, the retained `_chunk_tail` is at most `limit + 1 + |d|` bytes, the limit being
  `max_field_size` for a trailer line and `max_line_size` otherwise — for every earlier state
  the parser can be in and every `d`.  So an unterminated chunk-size line, chunk extension or
  trailer is cut off after `limit + 1` bytes plus one read, however it is dribbled in.
* `PayInv` is the invariant (`tail = []` inside chunk data), preserved by every call;
* `payloadRun_retained`: the same bound after every run of calls (`payloadRun`) on one unfinished body.
-/
namespace Aio.Http
open Aio

def KTail (m : Nat) (k : LoopK) : Prop :=
  ∀ p c evs p' evs', c.length < m → p.tail = [] → k p c evs = (.needs p', evs') →
    p'.tail.length ≤ c.length ∧ (p'.cstate = .chunk → p'.tail = []) ∧ p'.type = p.type

/-- whatever the chunked loop saves for the next call is no longer than the bytes it was given,
and nothing is saved inside chunk data -/
theorem chunkedLoop_tail (cfg : Cfg) : ∀ f, KTail f (chunkedLoop cfg f) := fun _ _ _ _ _ _ hc ht h =>
  have ⟨hty, _, hlen, hcs⟩ := chunkedLoop_needs cfg hc ht h
  ⟨hlen, hcs, hty⟩

/-- the invariant of a saved chunked-body state: nothing is buffered inside chunk data -/
def PayInv (p : PState) : Prop := p.type = .chunked → p.cstate = .chunk → p.tail = []

/-- the limit that applies to the line a saved state is inside of -/
def tailLimit (cfg : Cfg) (p : PState) : Nat := if p.cstate = .trailers then cfg.maxField else cfg.maxLine

theorem payloadFeed_chunked_needs (cfg : Cfg) (p : PState) (d : Bytes) (p' : PState) (ev : List Ev)
    (hty : p.type = .chunked) (hi : PayInv p) (h : payloadFeed cfg p d = (.needs p', ev)) :
    p'.type = .chunked ∧ p'.tail.length ≤ tailLimit cfg p + 1 + d.length ∧ PayInv p' := by
  obtain ⟨hnl, h⟩ := payloadFeed_chunked_run hty h nofun
  obtain ⟨hlen, hcs', hty'⟩ := chunkedLoop_tail cfg _ _ _ _ _ _ (Nat.lt_succ_self _) rfl h
  rw [List.length_append] at hlen
  refine ⟨hty'.trans hty, ?_, fun _ => hcs'⟩
  by_cases hcs : p.cstate = .chunk
  · rw [hi hty hcs] at hlen
    simp only [List.length_nil] at hlen
    omega
  · have hb := chunk_tail_bounded cfg p hcs hnl
    unfold tailLimit
    omega

/-- **Every call.** `HttpPayloadParser.feed_data(d)` on a chunked body, from any saved state: if the
call asks for more input (it neither completes the body nor raises), then what it keeps is at
most `limit + 1 + |d|` bytes — `limit + 1` is all the early check lets through from earlier
reads — and the invariant is kept. -/
theorem payloadFeed_retained (cfg : Cfg) (p : PState) (d : Bytes) (p' : PState) (ev : List Ev)
    (hty : p.type = .chunked) (hi : PayInv p)
    (h : payloadFeed cfg p d = (.needs p', ev)) :
    p'.tail.length ≤ tailLimit cfg p + 1 + d.length ∧ PayInv p' :=
  (payloadFeed_chunked_needs cfg p d p' ev hty hi h).2

/-- the parser creates chunked-body states with an empty buffer -/
theorem payInv_fresh (p : PState) (h : p.tail = []) : PayInv p := fun _ _ => h

/-- a run of calls on one chunked body: `none` once the body completed or the parser raised -/
def payloadRun (cfg : Cfg) : PState → List Bytes → Option PState
  | p, [] => some p
  | p, d :: ds =>
    match (payloadFeed cfg p d).1 with
    | .needs p' => payloadRun cfg p' ds
    | _ => none

theorem payloadRun_cons {cfg : Cfg} {p q : PState} {d : Bytes} {ds : List Bytes}
    (h : payloadRun cfg p (d :: ds) = some q) :
    ∃ p' ev, payloadFeed cfg p d = (.needs p', ev) ∧ payloadRun cfg p' ds = some q := by
  rw [payloadRun] at h
  rcases hpf : payloadFeed cfg p d with ⟨r, ev⟩
  rw [hpf] at h
  cases r with
  | needs p' => exact ⟨p', ev, rfl, h⟩
  | complete rest => cases h
  | err e b => cases h

/-- **Every run.** However an unfinished chunked body is cut into reads `ds`, as long as the parser
keeps asking for more, what it holds after the last read `d` is at most
`max(max_line_size, max_field_size) + 1 + |d|` bytes. -/
theorem payloadRun_retained (cfg : Cfg) (ds : List Bytes) (d : Bytes) (p q : PState)
    (hty : p.type = .chunked) (hi : PayInv p)
    (h : payloadRun cfg p (ds ++ [d]) = some q) :
    q.tail.length ≤ max cfg.maxLine cfg.maxField + 1 + d.length := by
  induction ds generalizing p with
  | nil =>
    obtain ⟨p', ev, hpf, hq⟩ := payloadRun_cons h
    cases hq
    have := (payloadFeed_retained cfg p d _ ev hty hi hpf).1
    have hl : tailLimit cfg p ≤ max cfg.maxLine cfg.maxField := by
      unfold tailLimit; split <;> omega
    omega
  | cons x xs ih =>
    obtain ⟨p', ev, hpf, hq⟩ := payloadRun_cons h
    obtain ⟨hty', _, hi'⟩ := payloadFeed_chunked_needs cfg p x p' ev hty hi hpf
    exact ih p' hty' hi' hq

/-- non-vacuity: a chunk-size line that never ends, dribbled five bytes at a time into a parser with
`max_line_size = 8`, is cut off (the run ends with `none`: LineTooLong) -/
example :
    payloadRun { maxLine := 8, maxField := 8 } { type := .chunked }
      [[49, 59, 97, 97, 97], [97, 97, 97, 97, 97], [97, 97, 97, 97, 97], [97, 97, 97, 97, 97]] = none := by
  decide +kernel

/-- and a run that is still within the limit satisfies the hypotheses of `payloadRun_retained` -/
example :
    (payloadRun { maxLine := 8, maxField := 8 } { type := .chunked } [[49, 59, 97], [97, 97]]).isSome = true := by
  decide +kernel

end Aio.Http
