import AioProps.C06Lemmas
import AioModel.C06Http
/-!
# C06 — property theorems (client connection reuse never mixes responses)

Model: `AioModel/C06.lean` (one connection = `ResponseHandler` + pool status),
`AioModel/C06World.lean` (session).  All statements hold for **every** parser (`P : Parser`):
they are about the plumbing between parser, protocol queue, pool and caller.
-/
namespace Aio.C06
open Aio
variable {P : Parser}

/-- **dirty ⇒ closed at release.** Whatever `should_close` sees at release time — the close
flag (peer asked for it, connection lost, exception, timeout), an unfinished body stream, an
upgrade, a stored exception, queued surplus messages, buffered tail bytes — or an explicit
`Connection.close()` (error / cancel / `resp.close()` paths) or `force_close`: the connection
is closed and is not put into the pool. -/
theorem release_dirty_closes (c : Conn P) (now : Nat) (fc explicit : Bool)
    (h : fc = true ∨ explicit = true ∨ c.shouldClose = true ∨ c.upgraded = true ∨ c.exc.isSome = true ∨
         c.buffer ≠ [] ∨ c.tail ≠ [] ∨ (∃ p, c.payload = some p ∧ c.payEof p = false)) :
    (c.release now fc explicit).connected = false ∧ (c.release now fc explicit).pooled = none := by
  refine ite_elim (fun r : Conn P => r.connected = false ∧ r.pooled = none) (fun _ => Conn.protoClose_closed _) fun hn => ?_
  -- nothing asks for closing: every alternative of `h` is refuted
  simp only [Bool.or_eq_true, not_or, Bool.not_eq_true] at hn
  obtain ⟨hsc, hpay, hup, hexc, hbuf, htail⟩ := (shouldCloseProp_eq_false_iff c).mp hn.2
  rcases h with h | h | h | h | h | h | h | ⟨p, hp, he⟩
  · cases hn.1.1.symm.trans h
  · cases hn.1.2.symm.trans h
  · cases hsc.symm.trans h
  · cases hup.symm.trans h
  · rw [hexc] at h; cases h
  · exact absurd hbuf h
  · exact absurd htail h
  · cases (hpay p hp).symm.trans he

/-- **closed ⇒ never handed out.** `_get` never returns a connection whose transport is gone
or closing, nor one that is not in the pool. -/
theorem closed_never_acquired (c : Conn P) (k : Key) (j now ka : Nat) (fix : Bool)
    (h : c.connected = false ∨ c.pooled = none) : (c.tryAcquire k j now ka fix).2 = false := by
  rcases tryAcquire_cases c k j now ka fix with ⟨_, hr, _⟩ | hf
  · obtain ⟨hp, hc, _⟩ := reusable_true hr
    rcases h with h | h
    · cases h.symm.trans hc
    · rw [h] at hp; cases hp
  · exact hf.1

/-- **closing ⇒ never handed out.** From the moment the transport has started closing (peer
FIN read, fatal error, `transport.close()` after garbage on an idle connection) - even while
`connection_lost` has not been delivered and `self.transport` is still set - `_get` does not
hand the connection out: the reuse decision looks at `is_closing()`, not only at `transport`. -/
theorem closing_never_acquired (c : Conn P) (k : Key) (j now ka : Nat) (fix : Bool) :
    (c.beginClose.tryAcquire k j now ka fix).2 = false :=
  closed_never_acquired _ k j now ka fix (Or.inl (beginClose_not_connected c))

/-- **same key.** A pooled connection is handed out only to a request whose connection key
(host, port, TLS flag, TLS settings, proxy, proxy-header hash, server name) equals the key
the connection was opened under. -/
theorem tryAcquire_same_key (c : Conn P) (k : Key) (j now ka : Nat) (fix : Bool)
    (h : (c.tryAcquire k j now ka fix).2 = true) :
    c.key = k ∧ (c.tryAcquire k j now ka fix).1.key = k ∧ (c.tryAcquire k j now ka fix).1.owner = some j := by
  rcases tryAcquire_cases c k j now ka fix with ⟨hk, _, he⟩ | hf
  · rw [he]
    exact ⟨hk, hk, rfl⟩
  · cases hf.1.symm.trans h

/-- With the candidate repair, a connection is handed out only if, at that moment,
`should_close` is false and the old parser holds no bytes of an unfinished message: in
particular its message queue and its tail buffer are empty. -/
theorem acquired_clean_fixed (c : Conn P) (k : Key) (j now ka : Nat)
    (h : (c.tryAcquire k j now ka true).2 = true) :
    c.shouldCloseProp = false ∧ c.parserPending = false ∧ c.buffer = [] ∧ c.tail = [] := by
  rcases tryAcquire_cases c k j now ka true with ⟨_, hr, _⟩ | hf
  · obtain ⟨hs, hp⟩ := (reusable_true hr).2.2 rfl
    exact ⟨hs, hp, shouldCloseProp_false_empty c hs⟩
  · cases hf.1.symm.trans h

/-! ## all histories of one connection -/

/-- every head handed out so far stems from chunks that arrived while its receiver held the
connection, and so does whatever is still on the connection for its present holder -/
def Good (s : CS P) : Prop := OwnInv s.c ∧ ∀ h ∈ s.heads, ∀ t ∈ h.2, t = some h.1

/-- head-provenance invariant of the single-connection machine, relative to the ghost flag
"never handed out with a non-empty queue or tail" -/
def HInv (s : CS P) : Prop := s.dirtyAcq = false → Good s

theorem cstep_dirtyAcq (g : CCfg) (s : CS P) (op : COp) :
    (cstep g s op).dirtyAcq = s.dirtyAcq ∨ ((cstep g s op).dirtyAcq = true ∧ g.fix = false) := by
  fun_cases cstep g s op
  case case1 k j skip =>
    -- `acquire`, the only operation that writes the flag
    unfold cAcquire
    rcases acqResult_cases g s.c k j s.now with ⟨he, hfix⟩ | ⟨hf, _⟩
    · rw [he, if_pos rfl]
      show (s.dirtyAcq || !s.c.buffer.isEmpty || !s.c.tail.isEmpty) = _ ∨ _
      cases hg : g.fix with
      | true =>
        obtain ⟨hb, ht⟩ := shouldCloseProp_false_empty s.c (hfix hg)
        rw [hb, ht]
        exact Or.inl ((Bool.or_false _).trans (Bool.or_false _))
      | false =>
        rcases Bool.eq_false_or_eq_true (s.dirtyAcq || !s.c.buffer.isEmpty || !s.c.tail.isEmpty) with hd | hd
        · exact Or.inr ⟨hd, rfl⟩
        · exact Or.inl (hd.trans (Bool.or_eq_false_iff.mp (Bool.or_eq_false_iff.mp hd).1).1.symm)
    · rw [if_neg (hf ▸ Bool.noConfusion)]
      exact Or.inl rfl
  all_goals exact Or.inl rfl

theorem HInv_step (g : CCfg) (s : CS P) (op : COp) (hs : HInv s) : HInv (cstep g s op) := by
  intro hd
  have hd0 : s.dirtyAcq = false := by
    rcases cstep_dirtyAcq g s op with h | h
    · exact h.symm.trans hd
    · cases hd.symm.trans h.1
  obtain ⟨ho, hh⟩ := hs hd0
  -- the branches of `cstep`: 1 acquire, 2/3 recv, 4/5 pop, 6/7 release, 8 lost, 9 tick, 10 beginClose, 11 hold;
  -- in 3, 5, 7 the operation does not apply and the state stays
  fun_cases cstep g s op
  case case1 k j skip =>
    simp only [cstep, cAcquire] at hd ⊢
    rcases acqResult_cases g s.c k j s.now with ⟨he, _⟩ | ⟨hf, hfr⟩
    · -- the connection that is handed out has an empty queue and tail, and gets a fresh parser
      rw [he, if_pos rfl] at hd ⊢
      have hd' : (s.dirtyAcq || !s.c.buffer.isEmpty || !s.c.tail.isEmpty) = false := hd
      simp only [Bool.or_eq_false_iff, Bool.not_eq_eq_eq_not, Bool.not_false, List.isEmpty_iff] at hd'
      exact ⟨ownInv_setResponseParams _ _ _ _ hd'.1.2 hd'.2, hh⟩
    · rw [if_neg (hf ▸ Bool.noConfusion)]
      exact ⟨ho.frame hfr, hh⟩
  case case2 => exact ⟨ho.keeps (keeps_dataReceived (fun t ht => List.mem_singleton.mp ht) _ _ _ _), hh⟩
  case case4 j q c' hp hj =>
    obtain ⟨rest, hb, rfl⟩ := popHead_some hp
    have hin : OwnInv ({ s.c with buffer := rest } : Conn P) :=
      ho.keeps ⟨Or.inl rfl, fun h => ⟨h.1, h.2.1, fun q hq => h.2.2 q (hb ▸ List.mem_cons_of_mem _ hq)⟩⟩
    refine ⟨hin.frame (frame_onEof _ _ _ _), List.forall_mem_append.mpr ⟨hh, fun h hmem => ?_⟩⟩
    rw [List.mem_singleton.mp hmem]
    exact (ho j hj).2.2 q (hb ▸ List.mem_cons_self)
  case case6 => exact ⟨ho.frame (frame_release _ _ _ _), hh⟩
  case case8 => exact ⟨ho.frame (frame_connectionLost _ _), hh⟩
  case case10 => exact ⟨ho.frame (frame_beginClose _), hh⟩
  case case11 => exact ⟨ho.frame ⟨rfl, rfl, rfl, rfl, rfl, Or.inl rfl⟩, hh⟩
  all_goals exact ⟨ho, hh⟩

/-- a connection as `_create_connection` returns it (bytes may already have arrived on it:
they sit in `_tail`, tagged "nobody") -/
def CS.fresh (k : Key) (early : Bytes) : CS P :=
  { c := if early.isEmpty then { key := k }
         else { key := k, tail := early, tailTags := [none], stale := true } }

theorem HInv_fresh (k : Key) (early : Bytes) : HInv (CS.fresh (P := P) k early) := by
  refine fun _ => ⟨fun j hj => ?_, fun _ h => absurd h List.not_mem_nil⟩
  unfold CS.fresh at hj
  split at hj <;> cases hj

/-- **response heads from own bytes — unchanged code, `_partial`.**  For every history of
acquire / receive / pop / release / close / loss / time steps on one connection, with any
parser and any bytes: if the connection was never handed out at a moment when its message
queue or its tail buffer was non-empty (ghost flag `dirtyAcq`), then every response head a
caller was given on it was produced by a parser that, up to then, had consumed only chunks
that arrived while that caller's exchange held the connection.
Missing for the full statement: the hypothesis is false on the unchanged code
(`cex_unsolicited_while_idle`, `cex_surplus_same_read`, `cex_bytes_before_first_request`);
body streams are covered by the ghost comparison of the correspondence run, not by this
induction. -/
theorem own_bytes_conn_partial (g : CCfg) (k : Key) (early : Bytes) (ops : List COp)
    (hclean : (crun (P := P) g (CS.fresh k early) ops).dirtyAcq = false) :
    ∀ h ∈ (crun (P := P) g (CS.fresh k early) ops).heads, ∀ t ∈ h.2, t = some h.1 :=
  (crun_inv HInv (HInv_step g) ops _ (HInv_fresh k early) hclean).2

/-- **response heads from own bytes — with the candidate repair, all histories.**  If `_get`
re-checks `should_close` (and a new connection that already needs closing is refused), then
for every history on one connection, every parser and all bytes — including bytes before the
first request, while idle, and beyond the end of a response — every response head handed to
a caller stems only from chunks that arrived while that caller's exchange held the
connection. -/
theorem own_bytes_conn (g : CCfg) (hg : g.fix = true) (k : Key) (early : Bytes) (ops : List COp) :
    ∀ h ∈ (crun (P := P) g (CS.fresh k early) ops).heads, ∀ t ∈ h.2, t = some h.1 :=
  -- with the repair the ghost flag is never set
  own_bytes_conn_partial g k early ops <| crun_inv (·.dirtyAcq = false)
    (fun s op h => (cstep_dirtyAcq g s op).elim (·.trans h) fun h' => nomatch hg.symm.trans h'.2) ops _ rfl

/-- non-vacuity: a history with two exchanges on one reused connection satisfies the
hypothesis of `own_bytes_conn_partial` and delivers two heads -/
example :
    let s := crun (P := toyParser) { fix := false } (CS.fresh k0 [])
      [.acquire k0 0 false, .recv [4], .pop, .tick 1, .acquire k0 1 false, .recv [1, 2], .pop, .recv [3]]
    s.dirtyAcq = false ∧ s.heads.length = 2 ∧ s.c.pooled.isSome = true := by decide +kernel

/-- …and the unchanged code violates it on the single-connection machine as well: an idle
arrival makes the next acquisition dirty and the head delivered to exchange 1 foreign -/
example :
    let s := crun (P := toyParser) { fix := false } (CS.fresh k0 [])
      [.acquire k0 0 false, .recv [4], .pop, .recv [4], .acquire k0 1 false, .pop]
    s.dirtyAcq = true ∧ s.heads.getLast? = some (1, [some 0, none]) := by decide +kernel

/-- `BaseConnector._get`: whatever entry the loop over the pool returns for a request with key
`k` by exchange `j` was opened under exactly `k`, and is now held by `j`. -/
theorem getLoop_same_key (l : List Nat) (w w' : World P) (k : Key) (j c : Nat)
    (h : World.getLoop w k j l = (w', some c)) :
    ∃ cn, w'.conns[c]? = some cn ∧ cn.key = k ∧ cn.owner = some j := by
  fun_induction World.getLoop w k j l with
  | case1 => cases h
  | case3 w a rest cn hcn hk cn' w2 hta =>
    obtain ⟨rfl, hc⟩ := Prod.mk.inj h
    cases hc
    have hsk := tryAcquire_same_key cn k j w.now w.cfg.keepalive w.cfg.fix (by rw [hta])
    rw [hta] at hsk
    exact ⟨cn', List.getElem?_set_self (List.getElem?_eq_some_iff.mp hcn).1, hsk.2.1, hsk.2.2⟩
  | case2 | case4 | case5 =>
    rename_i ih
    exact ih h

/-! ## tables and tokens the reuse decision depends on -/

theorem le_and_le_eq_beq (a n : Nat) : (a ≤ n && n ≤ a) = (n == a) := by
  rw [Bool.eq_iff_iff, Bool.and_eq_true, decide_eq_true_eq, decide_eq_true_eq, beq_iff_eq]
  exact ⟨fun h => Nat.le_antisymm h.2 h.1, fun h => h ▸ ⟨Nat.le_refl _, Nat.le_refl _⟩⟩

theorem isEmptyBodyStatus_eq (code : Nat) :
    Http.isEmptyBodyStatus code = (decide (100 ≤ code ∧ code < 200) || code == 204 || code == 304) := by
  simp only [Http.isEmptyBodyStatus, Gen.Http.emptyBodyStatus, List.any_cons, List.any_nil, Bool.or_false,
    le_and_le_eq_beq, Bool.decide_and, Nat.lt_succ_iff, Bool.or_assoc]

/-- **Where a response ends.** The table `EMPTY_BODY_STATUS_CODES` (regenerated from the source on
every run) that lets the parser end a response at the empty line and lets the protocol hand
out `EMPTY_PAYLOAD` is exactly RFC 9112 §6.3: 1xx, 204, 304.  Any other status with
`Content-Length`/chunked content is read by its framing - otherwise its body bytes would be
left on the connection as "another response". -/
theorem emptyBody_rfc9112 :
    Gen.Http.emptyBodyStatus = [(100, 199), (204, 204), (304, 304)] ∧
    (List.range 1000).all (fun code =>
      Http.isEmptyBodyStatus code == (decide (100 ≤ code ∧ code < 200) || code == 204 || code == 304)) = true :=
  ⟨rfl, List.all_eq_true.mpr fun code _ => beq_iff_eq.mpr (isEmptyBodyStatus_eq code)⟩

/-- **Protocol switch spellings.** The parser model recognises the upgrade tokens
case-insensitively (`WebSocket`, `WEBSOCKET`, `TCP` …), so a `101` with any spelling marks the
connection upgraded, and an upgraded connection is closed at release (`release_dirty_closes`). -/
theorem upgrade_token_case_insensitive :
    Http.supportedUpgrade [(ascii "Upgrade", ascii "WebSocket")] = true ∧
    Http.supportedUpgrade [(ascii "upgrade", ascii "WEBSOCKET")] = true ∧
    Http.supportedUpgrade [(ascii "Upgrade", ascii "websocket")] = true ∧
    Http.supportedUpgrade [(ascii "Upgrade", ascii "TCP")] = true ∧
    Http.supportedUpgrade [(ascii "Upgrade", ascii "h2c")] = false := by
  decide +kernel

/-! ## Known findings: kernel-checked counterexamples on the model of the unchanged code
(`fix := false`), instantiated with the token parser `toyParser` -/
open World

/-- **Finding F6 (unchanged code).** A response that arrives while the connection idles in
the pool is queued by the previous exchange's parser and handed to the next request as its
answer: exchange 1 gets a head although no byte arrived while it held the connection, and
no second connection is opened. -/
theorem cex_unsolicited_while_idle :
    let w := run (P := toyParser) { cfg := {} } hUnsolicited
    w.phaseOf 1 = some .gotHead ∧ w.ownOK 1 = false ∧ w.usedOf 1 = [0] ∧ w.conns.length = 1 := by
  decide +kernel

/-- **Finding (unchanged code), no idle-time arrival needed.** When the read that completes
the body of response 0 also contains a complete further response, the eof callback releases
the connection to the pool *in the middle of* `data_received`; the surplus response is queued
afterwards and is delivered to the next request. All its bytes arrived during exchange 0. -/
theorem cex_surplus_same_read :
    let w := run (P := toyParser) { cfg := {} } hSurplusSameRead
    w.phaseOf 1 = some .gotHead ∧ w.ownOK 1 = false ∧ w.usedOf 1 = [0] ∧
      (match w.exchs[1]? with | some e => e.headProv | none => []) = [some 0, some 0] := by
  decide +kernel

/-- **Finding (unchanged code).** Bytes that reach a new connection before the first request
is handed to it are kept in `_tail` and replayed into that request's parser by
`set_response_params`: they become its response. -/
theorem cex_bytes_before_first_request :
    let w := run (P := toyParser) { cfg := {} } hEarly
    w.phaseOf 0 = some .gotHead ∧ w.ownOK 0 = false := by
  decide +kernel

/-- **Finding (unchanged code).** Bytes of an unfinished surplus message sit inside the old
parser, where `should_close` does not look: the connection is pooled and reused (the bytes
themselves are dropped with the old parser). -/
theorem cex_partial_surplus_reused :
    let w1 := run (P := toyParser) { cfg := {} } (hPartialSurplus.take 2)
    let w := run (P := toyParser) { cfg := {} } hPartialSurplus
    (match w1.conns[0]? with | some c => c.parserPending && c.pooled.isSome | none => false) = true ∧
      w.usedOf 1 = [0] ∧ w.ownOK 1 = true := by
  decide +kernel

/-- With the candidate repair (`fix := true`: `_get` re-checks `should_close` extended by
the parser's buffered bytes; a new connection that already needs closing is refused) the four
histories above end differently: the second request goes to a new connection, respectively
the first one is refused, and nobody receives foreign bytes. -/
theorem fixed_blocks_cex :
    (let w := run (P := toyParser) { cfg := { fix := true } } hUnsolicited
     w.usedOf 1 = [1] ∧ w.ownOK 1 = true) ∧
    (let w := run (P := toyParser) { cfg := { fix := true } } hSurplusSameRead
     w.usedOf 1 = [1] ∧ w.ownOK 1 = true) ∧
    (let w := run (P := toyParser) { cfg := { fix := true } } hEarly
     w.errOf 0 = some .dirty ∧ w.ownOK 0 = true) ∧
    (let w := run (P := toyParser) { cfg := { fix := true } } hPartialSurplus
     w.usedOf 1 = [1] ∧ w.ownOK 1 = true) := by
  decide +kernel

end Aio.C06
