import AioProps.C10
/-!
# C10 — the retained-bytes bound as an invariant of whole runs

`feedLoop_retained`: starting from a state whose collected lines respect the limits, after
*any* `feed_data` call that does not raise, the collected header lines still respect them
(at most `max_headers` lines, each at most the limit + 1 long) and, when no body is being
read, the buffered partial line is at most limit + 1 bytes.  By induction this holds after
every sequence of calls (`feedAll_retained`).
-/
namespace Aio.Http
open Aio

/-- the collected header lines respect the limits: `max`, since a stored line was accepted under one limit or the
other; `+ 1` as in `accepted_lines_bounded` -/
def LinesInv (cfg : Cfg) (st : St) : Prop :=
  st.lines.length ≤ cfg.maxHeaders ∧ ∀ l ∈ st.lines, l.length ≤ max cfg.maxLine cfg.maxField + 1

theorem maxLenFor_le (cfg : Cfg) (st : St) : maxLenFor cfg st ≤ max cfg.maxLine cfg.maxField := by
  unfold maxLenFor; split <;> omega

/-- what the parser retains between calls is within the configured limits (`+ 1`: the CR that may start the
terminator, `partial_line_bounded`) -/
def RetInv (cfg : Cfg) (st : St) : Prop :=
  LinesInv cfg st ∧
  (st.payload = none → st.upgraded = false → st.tail.length ≤ max cfg.maxLine cfg.maxField + 1)

theorem stepOnce_retained (cfg : Cfg) (urlOk : Bool → Bytes → Bool) (st : St) (d : Bytes) (hi : LinesInv cfg st) :
    match stepOnce cfg urlOk st d with
    | .cont st' _ _ => LinesInv cfg st' ∧ st'.tail = st.tail
    | .stop o => st.tail = [] → o.err = none → RetInv cfg o.st := by
  have hs := stepOnce_spec cfg urlOk st d
  generalize stepOnce cfg urlOk st d = s at hs
  obtain ⟨_, hat, hal, _, _⟩ := afterBody_frame st
  cases hs with
  | needs => exact fun _ _ => ⟨hi, fun hp => nomatch hp⟩
  | complete => exact ⟨by unfold LinesInv; rw [hal]; exact hi, hat⟩
  | swallowed =>
    refine fun ht _ => ⟨?_, fun _ _ => ?_⟩
    · show LinesInv cfg (afterBody st); unfold LinesInv; rw [hal]; exact hi
    · show (afterBody st).tail.length ≤ _; rw [hat, ht]; exact Nat.zero_le _
  | upgraded _ hu => exact fun _ _ => ⟨hi, fun _ hu' => by rw [hu] at hu'; cases hu'⟩
  | partLine =>
    rcases partialLine_cases cfg st d [] with ⟨e, hpl⟩ | ⟨hpl, _, hlen⟩ <;> rw [hpl]
    · exact fun _ he => nomatch he
    · refine fun _ _ => ⟨hi, fun _ _ => ?_⟩
      have := maxLenFor_le cfg st
      unfold tailLen at hlen
      show d.length ≤ _
      split at hlen <;> omega
  | blank => exact ⟨hi, rfl⟩
  | raised | refused | badLine | badHead => exact fun _ he => nomatch he
  | line _ _ _ hacc =>
    obtain ⟨hn, line, rfl, hll⟩ := accepted_lines_bounded cfg st _ _ hacc
    refine ⟨⟨hn, fun l hl => ?_⟩, rfl⟩
    rcases List.mem_append.mp hl with hm | hm
    · exact hi.2 l hm
    · cases List.mem_singleton.mp hm
      have := maxLenFor_le cfg st; omega
  | head _ _ _ _ _ ho =>
    obtain ⟨_, _, _, _, _, _, _, _, rfl, _⟩ := onHeaderBlock_ok ho
    exact ⟨⟨Nat.zero_le _, fun _ hl => nomatch hl⟩, rfl⟩

theorem stepOnce_cont_lines (cfg : Cfg) (urlOk : Bool → Bytes → Bool) (st st' : St) (a a' : Bytes) (ev : List Ev)
    (hi : LinesInv cfg st) (h : stepOnce cfg urlOk st a = .cont st' a' ev) :
    LinesInv cfg st' ∧ st'.tail = st.tail := by
  have := stepOnce_retained cfg urlOk st a hi
  rwa [h] at this

theorem stepOnce_stop_retained (cfg : Cfg) (urlOk : Bool → Bytes → Bool) (st : St) (a : Bytes) (o : FeedOut)
    (hi : LinesInv cfg st) (ht : st.tail = []) (h : stepOnce cfg urlOk st a = .stop o) (he : o.err = none) :
    RetInv cfg o.st := by
  have := stepOnce_retained cfg urlOk st a hi
  rw [h] at this
  exact this ht he

/-- **Retained bytes are bounded after every call that does not raise.** -/
theorem feedLoop_retained (cfg : Cfg) (urlOk : Bool → Bytes → Bool) :
    ∀ (f : Nat) (st : St) (d : Bytes) (acc : List Ev), d.length < f → LinesInv cfg st → st.tail = [] →
      (feedLoop cfg urlOk f st d acc).err = none → RetInv cfg (feedLoop cfg urlOk f st d acc).st :=
  fun f st d acc hlen hi ht =>
    feedLoop_rule cfg urlOk (fun st _ => LinesInv cfg st ∧ st.tail = []) (fun o => o.err = none → RetInv cfg o.st)
      (fun st _ h _ => ⟨h.1, fun _ _ => by rw [h.2]; exact Nat.zero_le _⟩)
      (fun st d _ o h hs => stepOnce_stop_retained cfg urlOk st d o h.1 h.2 hs)
      (fun st d _ st' d' ev h hs =>
        have ⟨hl, ht⟩ := stepOnce_cont_lines cfg urlOk st st' d d' ev h.1 hs
        ⟨⟨hl, ht.trans h.2⟩, nofun⟩)
      f st d acc hlen ⟨hi, ht⟩

theorem retInv_init (cfg : Cfg) : RetInv cfg {} := by
  refine ⟨⟨by simp, by simp⟩, fun _ _ => by simp⟩

/-- **One call.** If the retained state is within limits before `feed_data(d)` and the call does
not raise, it is within limits afterwards — whatever `d` is. -/
theorem feed_retained (cfg : Cfg) (urlOk : Bool → Bytes → Bool) (st : St) (d : Bytes)
    (hi : RetInv cfg st) (he : (feed cfg urlOk st d).err = none) : RetInv cfg (feed cfg urlOk st d).st := by
  unfold feed at he ⊢
  by_cases hf : st.failed = true
  · simp only [hf, if_true] at he ⊢; exact hi
  · rw [if_neg hf] at he ⊢
    have hi' : LinesInv cfg { st with tail := [] } := hi.1
    exact feedLoop_retained cfg urlOk ((st.tail ++ d).length + 1) { st with tail := [] } (st.tail ++ d) []
      (Nat.lt_succ_self _) hi' rfl he

/-- all the calls of a run, up to the first that raises: the last state, and whether none raised -/
def feedAll (cfg : Cfg) (urlOk : Bool → Bytes → Bool) : St → List Bytes → St × Bool
  | st, [] => (st, true)
  | st, d :: ds =>
    let o := feed cfg urlOk st d
    if o.err.isSome then (o.st, false) else feedAll cfg urlOk o.st ds

/-- **Every run.** After any sequence of reads none of which raised, the bytes retained for an
incomplete line and header block are within what the limits allow: at most `max_headers`
collected lines of at most `max(max_line_size, max_field_size) + 1` bytes each, and a buffered
partial line of at most that size. -/
theorem feedAll_retained (cfg : Cfg) (urlOk : Bool → Bytes → Bool) (st : St) (ds : List Bytes)
    (hi : RetInv cfg st) (hok : (feedAll cfg urlOk st ds).2 = true) :
    RetInv cfg (feedAll cfg urlOk st ds).1 := by
  revert hi hok
  fun_induction feedAll cfg urlOk st ds
  case case1 => exact fun hi _ => hi
  case case2 => exact fun _ h => nomatch h
  case case3 st d ds o he ih =>
    exact fun hi hok => ih (feed_retained cfg urlOk st d hi (by simpa using he)) hok

end Aio.Http
