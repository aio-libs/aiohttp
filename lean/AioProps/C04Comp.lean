import AioProps.C04
/-!
# C04: chunked framing with compression enabled

The compressor itself is not modelled: each `write`/`write_eof` op carries what the real
compressor returned for that call (`cz`, `flush`) as an oracle column.  The theorem is about the
*framing*: whatever the compressor returns, the chunked body on the wire decodes (strict RFC 9112
reference decoder) to exactly the concatenation of the compressor's outputs, in order — chunk
sizes and chunk contents never disagree, nothing is emitted outside a chunk, and the message ends
with exactly one last-chunk.
-/
namespace Aio.C04
open Aio

structure CompChunkedReady (w : W) : Prop where
  chunked : w.chunked = true
  comp : w.compress = true
  nolen : w.length = none
  isopen : w.closing = false
  noeof : w.eof = false
  hdr : (w.headersBuf = none ∧ w.headersWritten = true) ∨
        (∃ hb, w.headersBuf = some hb ∧ hb ≠ [] ∧ w.headersWritten = false)

theorem CompChunkedReady.chunking {w : W} : CompChunkedReady w → Chunking true w
  | ⟨a, b, c, d, e, f⟩ => ⟨a, b, c, d, e, f⟩

/-- `write(d)` (compressor returned `cz`) / `send_headers()` -/
inductive CBodyOp where
  | write (d cz : Bytes)
  | send

def CBodyOp.toOp : CBodyOp → Op
  | .write d cz => .write d cz
  | .send => .sendHeaders

/-- what the compressor returned for the op -/
def CBodyOp.out : CBodyOp → Bytes
  | .write _ cz => cz
  | .send => []

theorem cbodyOp_calls : BodyCalls true CBodyOp.toOp CBodyOp.out
  | .write _ _ => Or.inl ⟨_, _, rfl, rfl⟩
  | .send => Or.inr ⟨rfl, rfl⟩

/-- **Chunked framing is truthful under compression.** For a writer in chunked mode with
compression enabled and no declared length, and any program of `write`/`send_headers` calls ended
by `write_eof(d)` — whatever the compressor returned for each call, provided the final call has
something to send (the code asserts that): no call fails, the message is complete, and the wire
carries the header block and then a body that the strict reference decoder maps to exactly the
concatenation of the compressor's outputs, in order, with nothing left over. -/
theorem compressed_chunked_roundtrip (w : W) (hw : CompChunkedReady w) (ops : List CBodyOp) (d cz fl : Bytes)
    (hne : eofBody d cz fl ≠ []) :
    let r := run w (ops.map CBodyOp.toOp ++ [.writeEof d cz fl])
    ∃ body, r.1.out = flushed w ++ body ∧ r.1.eof = true ∧ (∀ e ∈ r.2, e = none) ∧
      decodeChunked (body.length + 1) body = some ((ops.map CBodyOp.out).flatten ++ eofBody d cz fl, []) := by
  obtain ⟨h1, h2, h3⟩ := chunking_wire cbodyOp_calls w hw.chunking ops (.writeEof d cz fl) _
    fun w' h' => step_writeEof_chunking true w' h' d cz fl fun _ => hne
  refine ⟨_, h1, h2, h3, ?_⟩
  simpa using decode_encodeChunks (ops.map CBodyOp.out ++ [eofBody d cz fl]) []

end Aio.C04
