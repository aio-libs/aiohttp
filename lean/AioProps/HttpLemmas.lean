import AioModel.Http
import AioProps.Basics
/-!
# The HTTP parser model, characterised once for C01 / C03 / C10

The byte tables and the `strip` functions; `payloadFeed_*`, one equation per framing; `onHeaderBlock_ok`, what an
accepted header block returns; `StepSpec` / `stepOnce_spec`, one iteration of `feed_data`'s loop leaf by leaf; and the
loop itself: `feedLoop_nil`, `feedLoop_succ`, `feedLoop_rule` (an invariant of `stepOnce` is an invariant of a run with
enough fuel), `feed_usable`.
-/
namespace Aio.Http
open Aio

theorem forall_uint8 (P : UInt8 → Prop) (h : ∀ n : Fin 256, P (n.val.toUInt8)) : ∀ b, P b := by
  intro b
  have := h ⟨b.toNat, b.toNat_lt⟩
  simpa using this

/-! ### facts about the generated tables (re-checked whenever the source tables change) -/

theorem tchar_table : ∀ b : UInt8, isTchar b = true →
    (33 ≤ b.toNat ∧ b.toNat ≤ 126 ∧ b ≠ 34 ∧ b ≠ 40 ∧ b ≠ 41 ∧ b ≠ 44 ∧ b ≠ 47 ∧ b ≠ 58 ∧ b ≠ 59 ∧
     b ≠ 60 ∧ b ≠ 61 ∧ b ≠ 62 ∧ b ≠ 63 ∧ b ≠ 64 ∧ b ≠ 91 ∧ b ≠ 92 ∧ b ≠ 93 ∧ b ≠ 123 ∧ b ≠ 125) := by
  apply forall_uint8; decide +kernel

theorem valueForbidden_table : ∀ b : UInt8,
    ((b.toNat < 32 ∧ b ≠ 9) ∨ b = 127) → valueForbidden b = true := by
  apply forall_uint8; decide +kernel

theorem targetForbidden_table : ∀ b : UInt8, (b.toNat ≤ 32 ∨ b = 127) → targetForbidden b = true := by
  apply forall_uint8; decide +kernel

theorem digit_table : ∀ b : UInt8, isDigitB b = true ↔ (48 ≤ b.toNat ∧ b.toNat ≤ 57) := by
  apply forall_uint8; decide +kernel

theorem hex_table : ∀ b : UInt8, isHexB b = true ↔
    ((48 ≤ b.toNat ∧ b.toNat ≤ 57) ∨ (65 ≤ b.toNat ∧ b.toNat ≤ 70) ∨ (97 ≤ b.toNat ∧ b.toNat ≤ 102)) := by
  apply forall_uint8; decide +kernel

theorem versdigit_table : ∀ b : UInt8, isVersDigit b = true ↔ (48 ≤ b.toNat ∧ b.toNat ≤ 57) := by
  apply forall_uint8; decide +kernel


theorem cut1_spec (c : UInt8) (bs x y : Bytes) (h : cut1 c bs = some (x, y)) :
    bs = x ++ c :: y ∧ c ∉ x := by
  fun_induction cut1 c bs generalizing x with
  | case1 => cases h
  | case2 t => cases h; exact ⟨rfl, List.not_mem_nil⟩
  | case3 b t hb x' y' hc ih =>
    cases h
    obtain ⟨e, hn⟩ := ih x' hc
    exact ⟨congrArg (b :: ·) e, fun hm => (List.mem_cons.mp hm).elim (hb ·.symm) hn⟩
  | case4 => cases h

theorem cut1_none (c : UInt8) (bs : Bytes) (h : cut1 c bs = none) : c ∉ bs := by
  fun_induction cut1 c bs with
  | case1 => exact List.not_mem_nil
  | case2 => cases h
  | case3 => cases h
  | case4 b t hb hc ih => exact fun hm => (List.mem_cons.mp hm).elim (hb ·.symm) (ih hc)

theorem lstrip_spec (p : UInt8 → Bool) (bs : Bytes) :
    ∃ l, bs = l ++ lstrip p bs ∧ l.all p = true ∧ (∀ b, (lstrip p bs).head? = some b → p b = false) := by
  fun_induction lstrip p bs with
  | case1 => exact ⟨[], rfl, rfl, nofun⟩
  | case2 b t hp ih =>
    obtain ⟨l, e, hl, hh⟩ := ih
    exact ⟨b :: l, congrArg (b :: ·) e, by rw [List.all_cons, hp, hl]; rfl, hh⟩
  | case3 b t hp => exact ⟨[], rfl, rfl, fun b' hb' => by cases hb'; simpa using hp⟩

theorem rstrip_spec (p : UInt8 → Bool) (bs : Bytes) :
    ∃ r, bs = rstrip p bs ++ r ∧ r.all p = true ∧ (∀ b, (rstrip p bs).getLast? = some b → p b = false) := by
  obtain ⟨l, e, hl, hh⟩ := lstrip_spec p bs.reverse
  refine ⟨l.reverse, ?_, by simpa using hl, ?_⟩
  · have := congrArg List.reverse e
    simp at this
    simpa [rstrip] using this
  · intro b hb
    apply hh b
    simpa [rstrip, List.getLast?_reverse] using hb

theorem strip_spec (p : UInt8 → Bool) (bs : Bytes) :
    ∃ l r, bs = l ++ strip p bs ++ r ∧ l.all p = true ∧ r.all p = true ∧
      (∀ b, (strip p bs).head? = some b → p b = false) ∧
      (∀ b, (strip p bs).getLast? = some b → p b = false) := by
  obtain ⟨l, e1, hl, hh⟩ := lstrip_spec p bs
  obtain ⟨r, e2, hr, ht⟩ := rstrip_spec p (lstrip p bs)
  refine ⟨l, r, ?_, hl, hr, ?_, ht⟩
  · unfold strip; rw [List.append_assoc, ← e2]; exact e1
  · intro b hb
    -- the head of rstrip (lstrip bs) is the head of lstrip bs (if non-empty)
    unfold strip at hb
    cases hs : rstrip p (lstrip p bs) with
    | nil => simp [hs] at hb
    | cons x xs =>
      rw [hs] at hb; simp at hb; subst hb
      have : (lstrip p bs).head? = some x := by rw [e2, hs]; simp
      exact hh x this

theorem payloadFeed_length (cfg : Cfg) (p : PState) (a : Bytes) (h : p.type = .length) :
    (p.length ≤ a.length ∧
      payloadFeed cfg p a = (.complete (a.drop p.length), dataEv (a.take p.length) ++ [.eof])) ∨
    (a.length < p.length ∧
      payloadFeed cfg p a = (.needs { p with length := p.length - a.length }, dataEv a)) := by
  unfold payloadFeed
  simp only [h]
  by_cases hz : p.length - a.length = 0
  · exact .inl ⟨by omega, by simp only [hz, beq_self_eq_true, if_true]⟩
  · have hb : (p.length - a.length == 0) = false := by simpa using hz
    have hlt : a.length < p.length := by omega
    exact .inr ⟨hlt, by simp only [hb, Bool.false_eq_true, if_false, List.take_of_length_le (Nat.le_of_lt hlt)]⟩

theorem payloadFeed_untilEof (cfg : Cfg) (p : PState) (a : Bytes) (h : p.type = .untilEof) :
    payloadFeed cfg p a = (.needs p, dataEv a) := by
  unfold payloadFeed; simp only [h]

theorem payloadFeed_none (cfg : Cfg) (p : PState) (a : Bytes) (h : p.type = .none) :
    payloadFeed cfg p a = (.needs p, []) := by
  unfold payloadFeed; simp only [h]

theorem payloadFeed_chunked (cfg : Cfg) (p : PState) (a : Bytes) (hp : p.type = .chunked) :
    payloadFeed cfg p a =
      if chunkTailTooLong cfg p then (.err .lineTooLong false, [])
      else chunkedLoop cfg ((p.tail ++ a).length + 1) { p with tail := [] } (p.tail ++ a) [] := by
  unfold payloadFeed
  simp [hp]

theorem payloadFeed_chunked_run {cfg : Cfg} {p : PState} {a : Bytes} {r : PRes} {ev : List Ev} (hp : p.type = .chunked)
    (h : payloadFeed cfg p a = (r, ev)) (hr : r ≠ .err .lineTooLong false) :
    chunkTailTooLong cfg p = false ∧
      chunkedLoop cfg ((p.tail ++ a).length + 1) { p with tail := [] } (p.tail ++ a) [] = (r, ev) := by
  rw [payloadFeed_chunked cfg p a hp] at h
  cases hc : chunkTailTooLong cfg p
  · rw [hc] at h
    exact ⟨rfl, h⟩
  · rw [hc, if_pos rfl] at h
    cases h
    exact absurd rfl hr

theorem onHeaderBlock_ok {cfg : Cfg} {urlOk : Bool → Bytes → Bool} {st st' : St} {lines : List Bytes}
    {evs : List Ev} {sc : Bool} (h : onHeaderBlock cfg urlOk st lines = .ok (st', evs, sc)) :
    ∃ msg hp pl u pu,
      (if cfg.response then parseResponse cfg lines else parseRequest cfg urlOk lines) = .ok msg ∧
      sc = msg.shouldClose ∧ (evs = [.msg msg hp] ∨ evs = [.msg msg hp, .eof]) ∧
      st' = { st with lines := [], payload := pl, upgraded := u, pendingUpgrade := pu } ∧
      (pl = st.payload ∨ ∃ p, pl = some p ∧ p.tail = [] ∧ (p.type = .length → p.length ≠ 0)) := by
  revert h
  fun_cases onHeaderBlock cfg urlOk st lines
  case case1 | case2 | case3 => exact nofun
  all_goals
    intro h
    obtain ⟨rfl, rfl, rfl⟩ : _ = st' ∧ _ = evs ∧ _ = sc := by simpa only [Except.ok.injEq, Prod.mk.injEq] using h
  -- a body is announced (4) or the message is close-delimited (7), but the parser was built without body
  case case4 | case7 => exact ⟨_, true, _, _, _, by assumption, rfl, .inr rfl, rfl, .inl rfl⟩
  -- CONNECT (6) and close-delimited (8): a fresh until-eof body
  case case6 | case8 => exact ⟨_, true, _, _, _, by assumption, rfl, .inl rfl, rfl, .inr ⟨_, rfl, rfl, nofun⟩⟩
  -- no body: upgrade (9) or plain (10)
  case case9 | case10 => exact ⟨_, false, _, _, _, by assumption, rfl, .inl rfl, rfl, .inl rfl⟩
  -- a fresh chunked or Content-Length body; the length is positive because `lenPos || msg.chunked` held
  case case5 mt r msg hm len hlen hk up eb s lp hb hw p =>
    refine ⟨_, true, _, _, _, hm, rfl, .inl rfl, rfl, .inr ⟨p, rfl, ?_, fun hty => ?_⟩⟩
    · simp only [p]; split <;> rfl
    · cases hch : msg.chunked
      · cases len with
        | none => simp [hch, lp] at hb
        | some n =>
          simp [hch, lp] at hb
          simp only [p, hch, Bool.false_eq_true, if_false, Option.getD_some]
          omega
      · simp [p, hch] at hty

def afterBody (st : St) : St :=
  let st := { st with payload := none }
  if st.pendingUpgrade then { st with upgraded := true, pendingUpgrade := false } else st

def Step.st : Step → St
  | .cont st _ _ => st
  | .stop o => o.st

def Step.evs : Step → List Ev
  | .cont _ _ ev => ev
  | .stop o => o.evs

def Step.err : Step → Option Err
  | .cont _ _ _ => none
  | .stop o => o.err

theorem afterBody_frame (st : St) :
    (afterBody st).payload = none ∧ (afterBody st).tail = st.tail ∧ (afterBody st).lines = st.lines ∧
      (afterBody st).failed = st.failed ∧ (afterBody st).shouldClose = st.shouldClose := by
  unfold afterBody
  cases st.pendingUpgrade <;> exact ⟨rfl, rfl, rfl, rfl, rfl⟩

theorem partialLine_cases (cfg : Cfg) (st : St) (d : Bytes) (evs : List Ev) :
    (∃ e, partialLine cfg st d evs = { st := { st with tail := d, failed := true }, evs, rest := [], err := some e }) ∨
    (partialLine cfg st d evs = { st := { st with tail := d }, evs, rest := [], err := none } ∧
      (10 : UInt8) ∉ d ∧ tailLen cfg d ≤ maxLenFor cfg st) := by
  fun_cases partialLine cfg st d evs
  case case1 | case2 => exact .inl ⟨_, rfl⟩
  case case3 hlf hlen => exact .inr ⟨rfl, by simpa using hlf, Nat.le_of_not_lt hlen⟩

theorem stepOnce_payload (cfg : Cfg) (urlOk : Bool → Bytes → Bool) (st : St) (p : PState) (d : Bytes)
    (hp : st.payload = some p) :
    stepOnce cfg urlOk st d =
      match payloadFeed cfg p d with
      | (.needs p', ev) => .stop { st := { st with payload := some p' }, evs := ev, rest := [], err := none }
      | (.complete rest, ev) => .cont (afterBody st) rest ev
      | (.err e true, ev) => .stop { st := { st with failed := true }, evs := ev ++ [.payloadErr e], rest := [], err := some e }
      | (.err e false, ev) => .stop { st := { afterBody st with shouldClose := true }, evs := ev ++ [.payloadErr e], rest := [], err := none } := by
  unfold stepOnce afterBody
  simp only [hp]
  rcases payloadFeed cfg p d with ⟨r, ev⟩
  cases r with
  | needs p' => rfl
  | complete rest => rfl
  | err e rr =>
    cases rr
    · simp only []
      cases st.pendingUpgrade <;> rfl
    · rfl

/-- between bodies, not upgraded, and the buffer `d` holds a complete line of `pos` bytes -/
structure AtLine (cfg : Cfg) (st : St) (d : Bytes) (pos : Nat) : Prop where
  payload : st.payload = none
  upgraded : st.upgraded = false
  sep : findSep cfg.lax d = some pos

/-- What one iteration of the `feed_data` loop does, case by case: `StepSpec cfg urlOk st d s` holds
of exactly one `s`, the value of `stepOnce cfg urlOk st d` (`stepOnce_spec`, `StepSpec.eq`). -/
inductive StepSpec (cfg : Cfg) (urlOk : Bool → Bytes → Bool) (st : St) (d : Bytes) : Step → Prop
  | needs {p p' ev} : st.payload = some p → payloadFeed cfg p d = (.needs p', ev) →
      StepSpec cfg urlOk st d (.stop { st := { st with payload := some p' }, evs := ev, rest := [], err := none })
  | complete {p rest ev} : st.payload = some p → payloadFeed cfg p d = (.complete rest, ev) →
      StepSpec cfg urlOk st d (.cont (afterBody st) rest ev)
  | raised {p e ev} : st.payload = some p → payloadFeed cfg p d = (.err e true, ev) →
      StepSpec cfg urlOk st d
        (.stop { st := { st with failed := true }, evs := ev ++ [.payloadErr e], rest := [], err := some e })
  | swallowed {p e ev} : st.payload = some p → payloadFeed cfg p d = (.err e false, ev) →
      StepSpec cfg urlOk st d
        (.stop { st := { afterBody st with shouldClose := true }, evs := ev ++ [.payloadErr e], rest := [], err := none })
  | upgraded : st.payload = none → st.upgraded = true →
      StepSpec cfg urlOk st d (.stop { st, evs := [], rest := d, err := none })
  | partLine : st.payload = none → st.upgraded = false → findSep cfg.lax d = none →
      StepSpec cfg urlOk st d (.stop (partialLine cfg st d []))
  | blank {pos} : AtLine cfg st d pos → (pos == 0 && st.lines.isEmpty) = true →
      StepSpec cfg urlOk st d (.cont st (d.drop (sepLen cfg.lax)) [])
  | refused {pos} : AtLine cfg st d pos → (pos == 0 && st.lines.isEmpty) = false → st.shouldClose = true →
      StepSpec cfg urlOk st d
        (.stop { st := { st with failed := true }, evs := [], rest := [], err := some .badHttpMessage })
  | badLine {pos e} : AtLine cfg st d pos → (pos == 0 && st.lines.isEmpty) = false → st.shouldClose = false →
      acceptLine cfg st (d.take pos) = .error e →
      StepSpec cfg urlOk st d (.stop { st := { st with failed := true }, evs := [], rest := [], err := some e })
  | line {pos lines} : AtLine cfg st d pos → (pos == 0 && st.lines.isEmpty) = false → st.shouldClose = false →
      acceptLine cfg st (d.take pos) = .ok lines → (lines.getLast?.getD []).isEmpty = false →
      StepSpec cfg urlOk st d (.cont { st with lines } (d.drop (pos + sepLen cfg.lax)) [])
  | badHead {pos lines e} : AtLine cfg st d pos → (pos == 0 && st.lines.isEmpty) = false →
      st.shouldClose = false → acceptLine cfg st (d.take pos) = .ok lines →
      (lines.getLast?.getD []).isEmpty = true → onHeaderBlock cfg urlOk st lines = .error e →
      StepSpec cfg urlOk st d
        (.stop { st := { st with lines := [], failed := true }, evs := [], rest := [], err := some e })
  | head {pos lines s1 ev sc} : AtLine cfg st d pos → (pos == 0 && st.lines.isEmpty) = false →
      st.shouldClose = false → acceptLine cfg st (d.take pos) = .ok lines →
      (lines.getLast?.getD []).isEmpty = true → onHeaderBlock cfg urlOk st lines = .ok (s1, ev, sc) →
      StepSpec cfg urlOk st d (.cont { s1 with shouldClose := sc } (d.drop (pos + sepLen cfg.lax)) ev)

theorem StepSpec.eq {cfg : Cfg} {urlOk : Bool → Bytes → Bool} {st : St} {d : Bytes} {s : Step}
    (h : StepSpec cfg urlOk st d s) : stepOnce cfg urlOk st d = s := by
  cases h with
  | needs hp hf | complete hp hf | raised hp hf | swallowed hp hf => rw [stepOnce_payload cfg urlOk st _ d hp, hf]
  | upgraded hp hu => simp only [stepOnce, hp, hu, if_true]
  | partLine hp hu hf => simp only [stepOnce, hp, hu, hf, Bool.false_eq_true, if_false]
  | blank ha | refused ha | badLine ha | line ha | badHead ha | head ha =>
    simp only [stepOnce, ha.payload, ha.upgraded, ha.sep, *, Bool.false_eq_true, if_false, if_true]

theorem stepOnce_spec (cfg : Cfg) (urlOk : Bool → Bytes → Bool) (st : St) (d : Bytes) :
    StepSpec cfg urlOk st d (stepOnce cfg urlOk st d) := by
  cases hp : st.payload with
  | some p =>
    rw [stepOnce_payload cfg urlOk st p d hp]
    rcases hf : payloadFeed cfg p d with ⟨r, ev⟩
    cases r with
    | needs p' => exact .needs hp hf
    | complete rest => exact .complete hp hf
    | err e rr =>
      cases rr
      · exact .swallowed hp hf
      · exact .raised hp hf
  | none =>
    have nt {b : Bool} (h : ¬b = true) : b = false := eq_false_of_ne_true h
    fun_cases stepOnce cfg urlOk st d
    case case1 _ hu => exact .upgraded hp hu
    case case2 _ hu pos hf hb => exact .blank ⟨hp, nt hu, hf⟩ hb
    case case3 _ hu pos hf hb hsc => exact .refused ⟨hp, nt hu, hf⟩ (nt hb) hsc
    case case4 _ hu pos hf hb hsc e hal => exact .badLine ⟨hp, nt hu, hf⟩ (nt hb) (nt hsc) hal
    case case5 _ hu pos hf hb hsc lines hal hl e ho => exact .badHead ⟨hp, nt hu, hf⟩ (nt hb) (nt hsc) hal hl ho
    case case6 _ hu pos hf hb hsc lines hal _ hl s1 ev sc ho => exact .head ⟨hp, nt hu, hf⟩ (nt hb) (nt hsc) hal hl ho
    case case7 _ hu pos hf hb hsc lines hal _ hl => exact .line ⟨hp, nt hu, hf⟩ (nt hb) (nt hsc) hal (nt hl)
    case case8 _ hu hf => exact .partLine hp (nt hu) hf
    -- the remaining leaves are those of a body in progress
    case case9 | case10 | case11 | case12 => exact nomatch hp.symm.trans ‹st.payload = some _›

theorem feedLoop_nil (cfg : Cfg) (urlOk : Bool → Bytes → Bool) (f : Nat) (st : St) (acc : List Ev) :
    feedLoop cfg urlOk (f + 1) st [] acc = { st := st, evs := acc, rest := [], err := none } := by
  rw [feedLoop]; rfl

theorem feedLoop_succ (cfg : Cfg) (urlOk : Bool → Bytes → Bool) (f : Nat) (st : St) (d : Bytes)
    (acc : List Ev) (hd : d ≠ []) :
    feedLoop cfg urlOk (f + 1) st d acc =
      match stepOnce cfg urlOk st d with
      | .stop o => { o with evs := acc ++ o.evs }
      | .cont st' d' ev =>
        if d'.length < d.length then feedLoop cfg urlOk f st' d' (acc ++ ev)
        else { st := { st' with failed := true }, evs := acc ++ ev, rest := [], err := some .badHttpMessage } := by
  have hde : d.isEmpty = false := by cases d <;> simp_all
  rw [feedLoop]
  simp only [hde, Bool.false_eq_true, if_false]
  cases stepOnce cfg urlOk st d <;> rfl

/-- An invariant of `stepOnce` is an invariant of the loop; the second half of `hcont` is for the guard
against an iteration that consumed nothing. -/
theorem feedLoop_rule (cfg : Cfg) (urlOk : Bool → Bytes → Bool) (I : St → List Ev → Prop) (Q : FeedOut → Prop)
    (hnil : ∀ st acc, I st acc → Q { st, evs := acc, rest := [], err := none })
    (hstop : ∀ st d acc o, I st acc → stepOnce cfg urlOk st d = .stop o → Q { o with evs := acc ++ o.evs })
    (hcont : ∀ st d acc st' d' ev, I st acc → stepOnce cfg urlOk st d = .cont st' d' ev →
      I st' (acc ++ ev) ∧
        Q { st := { st' with failed := true }, evs := acc ++ ev, rest := [], err := some .badHttpMessage }) :
    ∀ (f : Nat) (st : St) (d : Bytes) (acc : List Ev), d.length < f → I st acc → Q (feedLoop cfg urlOk f st d acc) := by
  intro f st d acc
  fun_induction feedLoop cfg urlOk f st d acc
  case case1 => exact fun h => absurd h (Nat.not_lt_zero _)  -- no fuel
  case case2 => exact fun _ hi => hnil _ _ hi  -- buffer used up
  case case3 hs => exact fun _ hi => hstop _ _ _ _ hi hs
  case case4 hs hlt ih => exact fun hf hi => ih (by omega) (hcont _ _ _ _ _ _ hi hs).1
  case case5 hs _ => exact fun _ hi => (hcont _ _ _ _ _ _ hi hs).2  -- the guard

theorem feed_usable (cfg : Cfg) (urlOk : Bool → Bytes → Bool) {st : St} (d : Bytes) (h : st.failed = false) :
    feed cfg urlOk st d =
      feedLoop cfg urlOk ((st.tail ++ d).length + 1) { st with tail := [] } (st.tail ++ d) [] := by
  rw [feed, h, if_neg Bool.false_ne_true]

end Aio.Http
