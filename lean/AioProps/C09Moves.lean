import AioModel.C09
import AioProps.Basics
/-!
What one call into the pipeline does to the few fields the invariants of C09 read, as a small
abstract machine.  `core` projects a `World` to those fields; `Moves` is generated by the elementary
changes (a waiter woken or failed, a piece appended by `StreamReader.feed_data`, a piece popped by
`_read_nowait_chunk`, a coroutine parked, the low-water mark set).  Every function of the model below
the consumer is shown once to be a sequence of such moves; each invariant is then an induction over
`Moves` (`AioProps/C09Inv.lean`).  All other fields are registers: an update of them is no move at all.
-/
namespace Aio.C09
open Aio
variable {c : Codec}

structure Core where
  waitEntryCheck : Bool
  clearOnNeeds : Bool
  low : Nat
  buf : List Bytes
  deliveredR : List Bytes
  decodedR : List Bytes
  waiter : Bool
  exc : Option Err

def core (w : World c) : Core :=
  { waitEntryCheck := w.waitEntryCheck, clearOnNeeds := w.clearOnNeeds, low := w.low, buf := w.buf,
    deliveredR := w.deliveredR, decodedR := w.decodedR, waiter := w.waiter, exc := w.exc }

/-- `S` holds of every value the low-water mark is set to. -/
inductive Moves (S : Nat → Prop) : Core → Core → Prop
  | refl (a) : Moves S a a
  | trans {a b d} : Moves S a b → Moves S b d → Moves S a d
  | wake (a) : Moves S a { a with waiter := false }
  | fail (a e) : Moves S a { a with exc := some e, waiter := false }
  | feed (a d) : Moves S a { a with buf := a.buf ++ [d], decodedR := d :: a.decodedR }
  | pop (a) (data : Bytes) (buf' : List Bytes) : data ++ buf'.flatten = a.buf.flatten →
      Moves S a { a with buf := buf', deliveredR := data :: a.deliveredR }
  | park (a) : (a.waitEntryCheck && a.exc.isSome) = false → Moves S a { a with waiter := true }
  | setLow (a n) : S n → Moves S a { a with low := n }

variable {S : Nat → Prop} {a : Core} {w : World c}

/-- For the many `if`s whose condition plays no part.  The term proofs below read like the
definition: one `moves_ite` per `if`, its arguments the two branches in order. -/
theorem moves_ite {p : Prop} [Decidable p] {x y : World c} (hx : Moves S a (core x)) (hy : Moves S a (core y)) :
    Moves S a (core (if p then x else y)) :=
  ite_elim (fun w => Moves S a (core w)) (fun _ => hx) fun _ => hy

theorem moves_pauseReading (h : Moves S a (core w)) : Moves S a (core (pauseReading w)) :=
  moves_ite h h

theorem moves_wake (h : Moves S a (core w)) : Moves S a (core (wake w)) :=
  h.trans (.wake _)

theorem moves_setExc (e : Err) (h : Moves S a (core w)) : Moves S a (core (setExc w e)) := by
  have h1 := h.trans (.fail _ e)
  refine ite_elim (fun w' => Moves S a (core w')) (fun _ => h1) fun hw => ?_
  -- no waiter: recording the exception is the same move
  have : core { w with exc := some e } = { core w with exc := some e, waiter := false } := by
    simp only [core, Bool.eq_false_iff.2 hw]
  rw [this]
  exact h1

theorem moves_rdFeed (d : Bytes) (h : Moves S a (core w)) : Moves S a (core (rdFeed w d)) := by
  have h1 : Moves S a (core (wake { w with buf := w.buf ++ [d], total := w.total + d.length, decodedR := d :: w.decodedR })) :=
    moves_wake (h.trans (.feed _ d))
  exact moves_ite h (moves_ite h (moves_ite (moves_pauseReading h1) h1))

/- From here on `rdFeed` is used through its lemma alone, and so is each function below once it has
one.  Telling the unifier so keeps it from looking inside `rdFeed …` when it has to see that
`core (rdFeed …) = core { rdFeed … with more := … }`. -/
attribute [local irreducible] rdFeed

theorem moves_resumeTransport (h : Moves S a (core w)) : Moves S a (core (resumeTransport w)) :=
  moves_ite h h

theorem moves_rdFeedEof (h : Moves S a (core w)) : Moves S a (core (rdFeedEof w)) :=
  moves_resumeTransport (moves_wake h)

theorem moves_beginChunk (h : Moves S a (core w)) : Moves S a (core (beginChunk w)) := by
  fun_cases beginChunk w <;> exact h

theorem moves_endChunk (h : Moves S a (core w)) : Moves S a (core (endChunk w)) := by
  fun_cases endChunk w
  case case3 => exact moves_wake (moves_ite (moves_pauseReading h) h)
  all_goals exact h

theorem moves_sniffStart (d : Bytes) (h : Moves S a (core w)) : Moves S a (core (sniffStart w d)) :=
  moves_ite h h

theorem moves_decodeFeed (d : Bytes) (h : Moves S a (core w)) : Moves S a (core (decodeFeed w d)) := by
  fun_cases decodeFeed w d
  case case1 => exact h
  case case2 => exact moves_rdFeed _ h

theorem moves_payFeed (d : Bytes) (h : Moves S a (core w)) : Moves S a (core (payFeed w d)) :=
  moves_ite (moves_rdFeed (w := { w with rawInR := _ }) d h)
    (moves_decodeFeed d (moves_sniffStart (w := { w with rawInR := _, dsize := _ }) d h))

theorem moves_payEof (h : Moves S a (core w)) : Moves S a (core (payEof w)) :=
  moves_ite h (moves_rdFeedEof h)

attribute [local irreducible] setExc beginChunk endChunk payFeed payEof

theorem moves_drain : ∀ (fuel : Nat) {w : World c}, Moves S a (core w) → Moves S a (core (drain fuel w))
  | 0, _, h => h
  | n + 1, _, h => moves_ite h (moves_ite h (moves_ite (moves_payFeed [] h) (moves_drain n (moves_payFeed [] h))))

/-- For the `match self.res` that follows every run of the `data_available` loop. -/
theorem moves_byRes {r : Res} {x y z : World c} (hx : Moves S a (core x)) (hy : Moves S a (core y))
    (hz : Moves S a (core z)) :
    Moves S a (core (match r with | .pending => x | .failed => y | _ => z)) := by
  cases r <;> assumption

attribute [local irreducible] drain

theorem moves_feedLength (d : Bytes) (h : Moves S a (core w)) : Moves S a (core (feedLength w d)) :=
  have h1 := moves_payFeed (w := { w with tail := [], length := w.length - (w.tail ++ d).length }) ((w.tail ++ d).take w.length) h
  have h2 := moves_drain (drainFuel _) h1
  moves_ite h1 (moves_byRes h2 h2 (moves_ite (moves_ite (moves_payEof h2) (moves_payEof h2)) h2))

theorem moves_feedUntilEof (d : Bytes) (h : Moves S a (core w)) : Moves S a (core (feedUntilEof w d)) :=
  have h1 := moves_payFeed d h
  have h2 := moves_drain (drainFuel _) h1
  moves_ite h1 (moves_byRes h2 h2 (moves_ite (moves_ite (moves_payEof h2) (moves_payEof h2)) h2))

section
variable {k : World c → Bytes → World c} (hk : ∀ (w : World c) d, Moves S a (core w) → Moves S a (core (k w d)))
include hk

theorem moves_trailersStep (d : Bytes) (h : Moves S a (core w)) :
    Moves S a (core (trailersStep k w d)) := by
  -- 6, 7: the empty line that ends the trailers, `payEof` raised or not; 8: any other line, the loop goes on
  fun_cases trailersStep k w d
  case case6 | case7 => exact moves_payEof h
  case case8 => exact hk _ _ h
  all_goals exact h

theorem moves_chunkEofStep (d : Bytes) (h : Moves S a (core w)) :
    Moves S a (core (chunkEofStep k w d)) :=
  moves_ite (hk _ _ h) (moves_ite h h)

theorem moves_chunkStep (d : Bytes) (h : Moves S a (core w)) :
    Moves S a (core (chunkStep k w d)) :=
  have h1 := moves_payFeed (w := { w with chunkSize := w.chunkSize - d.length }) (d.take w.chunkSize) h
  have h2 := moves_endChunk (w := { payFeed _ _ with cstate := .chunkEof }) h1
  moves_ite h (moves_ite h1 (moves_ite (hk _ _ h1) (moves_ite h1 (moves_ite h2 (moves_chunkEofStep hk _ h2)))))

theorem moves_sizeStep (d : Bytes) (h : Moves S a (core w)) :
    Moves S a (core (sizeStep k w d)) := by
  -- 5: size 0, on to the trailers; 6, 7: a chunk begins, `beginChunk` raised or not
  fun_cases sizeStep k w d
  case case5 => exact moves_trailersStep hk _ h
  case case6 => exact moves_beginChunk h
  case case7 => exact moves_chunkStep hk _ (moves_beginChunk h)
  all_goals exact h

end

theorem moves_chunkedLoop : ∀ (fuel : Nat) (w : World c) (d : Bytes),
    Moves S a (core w) → Moves S a (core (chunkedLoop fuel w d))
  | 0, _, _, h => h
  | n + 1, w, d, h => by
    simp only [chunkedLoop]
    refine moves_ite h ?_
    split
    · exact moves_sizeStep (moves_chunkedLoop n) d h
    · exact moves_chunkStep (moves_chunkedLoop n) d h
    · exact moves_chunkEofStep (moves_chunkedLoop n) d h
    · exact moves_trailersStep (moves_chunkedLoop n) d h

theorem moves_ppFeedCore (d : Bytes) (h : Moves S a (core w)) : Moves S a (core (ppFeedCore w d)) := by
  simp only [ppFeedCore]
  split
  · exact moves_feedLength d h
  · exact moves_feedUntilEof d h
  · exact moves_ite h (moves_chunkedLoop _ { w with tail := [] } _ h)

theorem moves_ppFeed (d : Bytes) (h : Moves S a (core w)) : Moves S a (core (ppFeed w d)) :=
  moves_ite (moves_ppFeedCore d h) (moves_ppFeedCore d h)

attribute [local irreducible] ppFeed

theorem moves_parserFeed (d : Bytes) (h : Moves S a (core w)) : Moves S a (core (parserFeed w d)) := by
  have h1 := moves_ppFeed (w := { w with raised := none, res := .needs }) d h
  -- 1, 2: nothing is fed; 6, 7: `ppFeed` failed, the error is or is not re-raised
  fun_cases parserFeed w d
  case case1 | case2 => exact h
  case case6 | case7 => exact moves_setExc _ h1
  all_goals exact h1

theorem moves_dataReceived (d : Bytes) (h : Moves S a (core w)) : Moves S a (core (dataReceived w d)) :=
  moves_ite h (moves_parserFeed d h)

theorem moves_ppFeedEof (h : Moves S a (core w)) : Moves S a (core (ppFeedEof w)) := by
  -- 1, 2: EOF inside a chunked or length-framed body; 5, 6, 9, 10: the drain came to its end, `payEof` follows
  fun_cases ppFeedEof w
  case case1 | case2 => exact h
  case case5 | case6 | case9 | case10 => exact moves_payEof (moves_drain _ h)
  all_goals exact moves_drain _ h

attribute [local irreducible] ppFeedEof

theorem moves_connectionLost (h : Moves S a (core w)) : Moves S a (core (connectionLost w)) := by
  have h1 := moves_ppFeedEof (w := { w with raised := none, res := .needs }) h
  simp only [connectionLost]
  show Moves S a (core (if _ then _ else _))
  refine moves_ite ?_ h
  split
  · exact moves_setExc _ h1
  · exact moves_ite h1 h1

theorem moves_connectionLostServer (h : Moves S a (core w)) : Moves S a (core (connectionLostServer w)) :=
  moves_setExc _ h

/-- `core` and the flags of the parser and the protocol, which the consumer side changes only by
calling into the protocol. -/
structure View extends Core where
  paused : Bool
  hasMore : Bool
  ppLive : Bool
  parserLive : Bool

def view (w : World c) : View :=
  { toCore := core w, paused := w.paused, hasMore := w.hasMore, ppLive := w.ppLive, parserLive := w.parserLive }

/-- Above the protocol the operations (`read`, `readany`, `readline`, `BaseRequest.read`, close) pop
pieces, park, set the low-water mark, and call into the protocol. -/
inductive Steps (S : Nat → Prop) : View → View → Prop
  | refl (v) : Steps S v v
  | trans {u v x} : Steps S u v → Steps S v x → Steps S u x
  | pop (v) (data : Bytes) (buf' : List Bytes) : data ++ buf'.flatten = v.buf.flatten →
      Steps S v { v with buf := buf', deliveredR := data :: v.deliveredR }
  | park (v) : (v.waitEntryCheck && v.exc.isSome) = false → Steps S v { v with waiter := true }
  | setLow (v n) : S n → Steps S v { v with low := n }
  | received {k : Codec} (w : World k) (d : Bytes) : Steps S (view w) (view (dataReceived w d))
  | lost {k : Codec} (w : World k) : Steps S (view w) (view (connectionLost w))
  | lostServer {k : Codec} (w : World k) : Steps S (view w) (view (connectionLostServer w))

namespace Steps
theorem moves {u v : View} (h : Steps S u v) : Moves S u.toCore v.toCore := by
  induction h with
  | refl => exact .refl _
  | trans _ _ h1 h2 => exact h1.trans h2
  | pop v data buf' hd => exact .pop _ data buf' hd
  | park v hp => exact .park _ hp
  | setLow v n hn => exact .setLow _ n hn
  | received w d => exact moves_dataReceived d (.refl _)
  | lost w => exact moves_connectionLost (.refl _)
  | lostServer w => exact moves_connectionLostServer (.refl _)
end Steps

variable {v : View}

theorem steps_ite {p : Prop} [Decidable p] {x y : World c} (hx : Steps S v (view x)) (hy : Steps S v (view y)) :
    Steps S v (view (if p then x else y)) :=
  ite_elim (fun w => Steps S v (view w)) (fun _ => hx) fun _ => hy

theorem steps_ite' {β : Type} {p : Prop} [Decidable p] {x y : World c × β} (hx : Steps S v (view x.1)) (hy : Steps S v (view y.1)) :
    Steps S v (view (if p then x else y).1) :=
  ite_elim (fun r : World c × β => Steps S v (view r.1)) (fun _ => hx) fun _ => hy

theorem steps_setChunk {n : Nat} (hn : S n) (h : Steps S v (view w)) : Steps S v (view (setChunk w n)) :=
  steps_ite (h.trans (.setLow _ n hn)) h

theorem steps_resumeReading (h : Steps S v (view w)) : Steps S v (view (resumeReading w)) :=
  have h1 := h.trans (.received { w with readingPaused := false } [])
  steps_ite h1 h1

theorem steps_readChunk (n : Option Nat) (h : Steps S v (view w)) : Steps S v (view (readChunk w n)) := by
  simp only [readChunk]
  split
  · exact h
  · rename_i first restb hb
    have popped : ∀ (data : Bytes) (buf' : List Bytes) cursor outb splits, data ++ buf'.flatten = first ++ restb.flatten →
        Steps S v (view { w with buf := buf', cursor := cursor, outb := outb, deliveredR := data :: w.deliveredR, splits := splits }) :=
      fun data buf' _ _ _ hd => h.trans (.pop _ data buf' (by rw [hd]; simp only [view, core, hb, List.flatten_cons]))
    -- what is taken and what is left make up the first piece, whichever way it is cut
    refine steps_ite (steps_resumeReading (popped _ _ _ _ _ ?_)) (popped _ _ _ _ _ ?_) <;>
    · split
      · split
        · simp only [List.flatten_cons, ← List.append_assoc, List.take_append_drop]
        · rfl
      · rfl

theorem steps_readAllChunks : ∀ (k : Nat) {w : World c}, Steps S v (view w) → Steps S v (view (readAllChunks k w))
  | 0, _, h => h
  | k + 1, _, h => steps_readAllChunks k (steps_readChunk none h)

theorem steps_readUpTo : ∀ (fuel n : Nat) {w : World c}, Steps S v (view w) → Steps S v (view (readUpTo fuel n w))
  | 0, _, _, h => h
  | f + 1, _, _, h =>
    steps_ite h (steps_ite (steps_readChunk _ h) (steps_readUpTo f _ (steps_readChunk _ h)))

attribute [local irreducible] setChunk readChunk readAllChunks readUpTo

/-- `read(n)` sets the read chunk size, `readany()` does not. -/
theorem steps_setChunk? (n : Option Nat) (hn : ∀ k, n = some k → S k) (h : Steps S v (view w)) :
    Steps S v (view (match n with | some k => setChunk w k | none => w)) := by
  cases n with
  | none => exact h
  | some k => exact steps_setChunk (hn k rfl) h

/-- `_read_nowait(n)` / `_read_nowait(-1)` -/
theorem steps_readNowait (n : Option Nat) (h : Steps S v (view w)) :
    Steps S v (view (match n with | some k => readUpTo k k w | none => readAllChunks w.buf.length w)) := by
  cases n with
  | none => exact steps_readAllChunks _ h
  | some k => exact steps_readUpTo k k h

theorem steps_readOp (n : Option Nat) (hn : ∀ k, n = some k → S k) (h : Steps S v (view w)) :
    Steps S v (view (readOp w n).1) := by
  have h1 := steps_setChunk? n hn h
  fun_cases readOp w n
  case case1 => exact h
  case case2 => exact h1
  case case3 => exact steps_readNowait n h1

/-- `StreamReader._wait()`, which `reqLoop` has inline and the others call as `parkOrFail`; `w1`, `w2`
are the two ways of raising, which differ in registers. -/
theorem steps_wait {w1 w2 : World c} {o1 o2 : Out} (h : Steps S v (view w)) (h1 : Steps S v (view w1))
    (h2 : Steps S v (view w2)) :
    Steps S v (view (if w.waitEntryCheck && w.exc.isSome then (w1, o1)
      else if w.connected then ({ w with reqParked := true, waiter := true, wakeExc := none }, Out.blocked)
      else (w2, o2)).1) :=
  ite_elim (fun r : World c × Out => Steps S v (view r.1)) (fun _ => h1) fun hc =>
    steps_ite' (h.trans (.park _ (Bool.eq_false_iff.2 hc))) h2

theorem steps_reqLoop (cms : Nat) : ∀ (fuel : Nat) {w : World c},
    Steps S v (view w) → Steps S v (view (reqLoop cms fuel w).1)
  | 0, _, h => h
  | f + 1, w, h =>
    have h1 := steps_readAllChunks w.buf.length (w := { w with reqParked := false, outb := [] }) h
    steps_ite' h (steps_ite' (steps_wait h h h) (steps_ite' h1 (steps_ite' h1 (steps_reqLoop cms f h1))))

attribute [local irreducible] reqLoop

theorem steps_reqRead {cms : Nat} (hn : S cms) (h : Steps S v (view w)) : Steps S v (view (reqRead w cms).1) := by
  have h0 : Steps S v (view (if w.reqStarted then w else
      { (if cms != 0 then setChunk w cms else w) with reqStarted := true })) :=
    steps_ite h (ite_elim (fun x : World c => Steps S v (view { x with reqStarted := true }))
      (fun _ => steps_setChunk hn h) fun _ => h)
  simp only [reqRead]
  generalize (if w.reqStarted = true then w else _) = w0 at h0 ⊢
  refine steps_ite' h0 ?_
  split
  · exact h0
  · exact steps_ite' h0 (steps_reqLoop cms _ h0)

theorem resumeGate_some {r : World c × Out} (hr : resumeGate w = some r) :
    view r.1 = view w ∧ ∀ d, r.2 ≠ .data d := by
  revert hr
  fun_cases resumeGate w
  case case5 => exact nofun  -- `none`
  all_goals exact fun hr => by cases hr; exact ⟨rfl, fun _ => nofun⟩

theorem steps_parkOrFail (h : Steps S v (view w)) : Steps S v (view (parkOrFail w).1) :=
  steps_wait h h h

theorem steps_parkedRead (n : Option Nat) (hn : ∀ k, n = some k → S k) (h : Steps S v (view w)) :
    Steps S v (view (parkedRead w n).1) := by
  have h1 := steps_setChunk? n hn h
  fun_cases parkedRead w n
  case case1 r hr => rw [(resumeGate_some hr).1]; exact h
  case case2 => exact steps_parkOrFail h1
  case case3 => exact steps_readNowait n h1

theorem steps_lineTake (h : Steps S v (view w)) : Steps S v (view (lineTake w)) := by
  fun_cases lineTake w <;> exact steps_readChunk _ h

theorem steps_lineInner : ∀ (fuel m : Nat) {w : World c},
    Steps S v (view w) → Steps S v (view (lineInner fuel m w).1)
  | 0, _, _, h => h
  | f + 1, m, _, h =>
    have h1 := steps_lineTake h
    steps_ite' h (steps_ite' h1 (steps_ite' h1 (steps_lineInner f m h1)))

theorem steps_lineFinish (r : World c × LineRes) (h : Steps S v (view r.1)) : Steps S v (view (lineFinish r).1) := by
  fun_cases lineFinish r
  case case4 => exact steps_parkOrFail h
  all_goals exact h

theorem steps_parkedLine (h : Steps S v (view w)) : Steps S v (view (parkedLine w).1) := by
  fun_cases parkedLine w
  case case1 r hr => rw [(resumeGate_some hr).1]; exact h
  case case2 => exact steps_lineFinish _ (steps_lineInner _ _ (w := lineStart w) (steps_ite h h))

/-- `set_read_chunk_size` is an operation of its own: any value may become the low-water mark. -/
theorem steps_step (op : Op) (h : Steps (fun _ => True) v (view w)) :
    Steps (fun _ => True) v (view (step w op).1) := by
  cases op with
  | deliver seg => exact steps_ite' h (h.trans (.received { w with wireInR := seg :: w.wireInR } seg))
  | close => exact steps_ite' h (h.trans (.lost w))
  | read n =>
    simp only [step]
    split
    · exact h
    · exact steps_ite' h (steps_readOp _ (fun _ _ => trivial) h)
  | readAny => exact steps_readOp none (fun _ _ => trivial) h
  | setChunk n => exact steps_setChunk trivial h
  | reqRead cms => exact steps_reqRead trivial h
  | pread n => exact steps_parkedRead _ (fun _ _ => trivial) h
  | preadAny => exact steps_parkedRead _ (fun _ _ => trivial) h
  | preadLine => exact steps_parkedLine h
  | closeServer => exact steps_ite' h (h.trans (.lostServer w))

theorem steps_run : ∀ (ops : List Op) {w : World c},
    Steps (fun _ => True) v (view w) → Steps (fun _ => True) v (view (run w ops))
  | [], _, h => h
  | op :: ops, _, h => steps_run ops (steps_step op h)

end Aio.C09
