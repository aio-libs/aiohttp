import AioProps.C15Lemmas
import AioProps.C15StaticLemmas
/-!
# C15 — property theorems (static files: confinement and exact ranges)

Models: `AioModel/C15.lean` (= `BaseRequest.http_range`, `FileResponse._make_response`,
`_prepare_open_file`, `_sendfile_fallback`) and `AioModel/C15Static.lean`
(= `StaticResource.resolve/_handle/_resolve_path_to_response`, `FileResponse` file selection,
over an abstract file system).  Every statement quantifies over all header strings, all file
contents and sizes, all chunk sizes, all file systems `fs : Fs` and all request file names.
-/
namespace Aio.C15
open Aio

/-! ## Part 1 — ranges -/

/-- The regular expression literal found in `BaseRequest.http_range` *now* (re-extracted on
every run) is the one `matchRange` transcribes, and it is applied with `re.ASCII`. -/
theorem range_pattern_is_modelled :
    Gen.C15.rangePattern = "^bytes=(\\d*)-(\\d*)$".toList.map Char.toNat ∧
    Gen.C15.rangeAsciiFlag = true := by decide

/-- `http_range` refines the RFC 9110 §14.1.1 grammar: a well-formed single byte range whose
numbers `int()` accepts is turned into exactly its slice. -/
theorem httpRange_refines_spec (s : Str) (sp : RangeSpec) (hlen : s.length ≤ Gen.C15.maxStrDigits)
    (hnl : s.getLast? ≠ some 10) (h : parseSpec s = some sp) :
    httpRange (some s) = .ok (sliceOf sp) := by
  rw [httpRange_eq_spec s hnl hlen, h]

/-- … and everything the grammar does not derive is refused with `ValueError` (which
`_prepare_open_file` turns into 416).  (A value ending in `\n` is excluded: Python's `$` would
match before it; header values cannot contain a newline.) -/
theorem httpRange_rejects_malformed (s : Str) (hlen : s.length ≤ Gen.C15.maxStrDigits)
    (hnl : s.getLast? ≠ some 10) (h : parseSpec s = none) :
    httpRange (some s) = .error () := by
  rw [httpRange_eq_spec s hnl hlen, h]

example : parseSpec (ascii "bytes=2-4" |>.map (·.toNat)) = some (.fromTo 2 4) := by decide
example : parseSpec (ascii "bytes=2-4,6-7" |>.map (·.toNat)) = none := by decide

/-- **Status, Content-Range, Content-Length and the bytes to send are consistent.**  Whatever
the request headers, whenever `_prepare_open_file` answers 206 there are byte positions
`first ≤ last < size` such that `Content-Range` is `bytes first-last/size`, `Content-Length`
is `last-first+1`, and `_sendfile` is asked for exactly `offset = first`, `count = last-first+1`
(for every Range value: no restriction on length, trailing newline, or If-Range). -/
theorem range_consistent (isHead iro : Bool) (rng : Option Str) (size : Nat)
    (h : (prepareOpenFile isHead iro rng size).status = 206) :
    ∃ first last, first ≤ last ∧ last < size ∧
      prepareOpenFile isHead iro rng size = partialPlan isHead size first last := by
  rcases prepare_cases isHead iro rng size with hp | hp | hp
  · rw [hp] at h; simp [fullPlan] at h
  · rw [hp] at h; simp [unsatPlan] at h
  · exact hp

example : (prepareOpenFile false true (some ((ascii "bytes=2-4").map (·.toNat))) 10).status = 206 := by decide

theorem range_is_served_slice (isHead : Bool) (s : Str) (size : Nat) (sp : RangeSpec)
    (hlen : s.length ≤ Gen.C15.maxStrDigits) (hnl : s.getLast? ≠ some 10) (hsp : parseSpec s = some sp) :
    prepareOpenFile isHead true (some s) size =
      (match servedSlice sp size with
       | some (f, l) => partialPlan isHead size f l
       | none => unsatPlan size) :=
  prepare_spec isHead _ size sp (parseSpec_wf s sp hsp) (httpRange_refines_spec s sp hlen hnl hsp)

/- Full statement (FALSE on the unchanged code, see `f15_suffix_zero_served_whole`):
   ∀ s sp, parseSpec s = some sp → prepareOpenFile isHead true (some s) size =
     match rfcSlice sp size with | some (f, l) => partialPlan isHead size f l | none => unsatPlan size -/
/-- **The slice served is the slice requested (RFC 9110 §14.1.2)** — for every well-formed
single byte range except the zero-length suffix `bytes=-0` (finding F15): a satisfiable
range is answered 206 with exactly the positions `rfcSlice` selects (last-byte-pos clamped to
the file, suffix longer than the file = whole file), an unsatisfiable one 416 with
`Content-Range: bytes */size`.  Missing for the full statement: `sp ≠ .suffix 0`. -/
theorem range_is_requested_slice_partial (isHead : Bool) (s : Str) (size : Nat) (sp : RangeSpec)
    (hlen : s.length ≤ Gen.C15.maxStrDigits) (hnl : s.getLast? ≠ some 10)
    (hsp : parseSpec s = some sp) (hz : sp ≠ .suffix 0) :
    prepareOpenFile isHead true (some s) size =
      (match rfcSlice sp size with
       | some (f, l) => partialPlan isHead size f l
       | none => unsatPlan size) := by
  rw [range_is_served_slice isHead s size sp hlen hnl hsp, servedSlice, if_neg hz]

example : parseSpec ((ascii "bytes=-3").map (·.toNat)) = some (.suffix 3) ∧ RangeSpec.suffix 3 ≠ .suffix 0 := by decide

/-- **Finding F15 (counterexample to the full statement).**  `Range: bytes=-0` on a 10-byte
file: RFC 9110 calls a zero-length suffix unsatisfiable, the code answers 206 with the whole
file (`Content-Range: bytes 0-9/10`), because `start = -0 = 0` no longer looks like a suffix. -/
theorem f15_suffix_zero_served_whole :
    parseSpec ((ascii "bytes=-0").map (·.toNat)) = some (.suffix 0) ∧
    rfcSlice (.suffix 0) 10 = none ∧
    prepareOpenFile false true (some ((ascii "bytes=-0").map (·.toNat))) 10 = partialPlan false 10 0 9 := by
  decide

/-- **416 exactly when the request cannot be satisfied.**  With a passing (or absent) If-Range,
the answer is 416 iff a Range header is present and either is malformed or names no byte of
the file — stated for header values the grammar lemma covers, with the F15 case (`bytes=-0`
on a non-empty file, answered 206) spelled out on the right-hand side. -/
theorem unsatisfiable_416_iff (isHead iro : Bool) (rng : Option Str) (size : Nat)
    (hlen : ∀ s, rng = some s → s.length ≤ Gen.C15.maxStrDigits ∧ s.getLast? ≠ some 10) :
    (prepareOpenFile isHead iro rng size).status = 416 ↔
      iro = true ∧ ∃ s, rng = some s ∧
        (match parseSpec s with
         | none => True
         | some sp => rfcSlice sp size = none ∧ (sp = .suffix 0 → size = 0)) := by
  cases iro with
  | false => rw [prepare_stale]; simp [fullPlan]
  | true =>
    cases rng with
    | none => rw [prepare_no_range]; simp [fullPlan]
    | some s =>
      obtain ⟨hl, hnl⟩ := hlen s rfl
      simp only [true_and, Option.some.injEq, exists_eq_left']
      cases hsp : parseSpec s with
      | none =>
        rw [prepare_error _ _ _ (httpRange_rejects_malformed s hl hnl hsp)]
        simp [unsatPlan]
      | some sp =>
        rw [range_is_served_slice isHead s size sp hl hnl hsp, servedSlice]
        by_cases hz : sp = .suffix 0
        · subst hz
          by_cases hs : size = 0
          · simp [hs, unsatPlan, rfcSlice]
          · simp [hs, Nat.pos_of_ne_zero hs, partialPlan, rfcSlice]
        · rw [if_neg hz]
          cases hsl : rfcSlice sp size with
          | none => simp [unsatPlan, hz, hsl]
          | some fl => simp [partialPlan, hsl]

/-- **200 with the whole file when no range applies**: no Range header, or an If-Range date
older than the file (then the Range header is not even parsed). -/
theorem full_200_when_no_range_or_stale (isHead iro : Bool) (rng : Option Str) (size : Nat)
    (h : iro = false ∨ rng = none) :
    prepareOpenFile isHead iro rng size = fullPlan isHead size := by
  rcases h with rfl | rfl
  · exact prepare_stale _ _ _
  · exact prepare_no_range _ _ _

/-- **The chunked read loop sends exactly `count` bytes from `offset`**: for every positive
`chunk_size`, `_sendfile_fallback` hands the writer `file[offset:][:count]`, however the reads
fall. -/
theorem sendLoop_exact (cs : Nat) (hcs : 0 < cs) (file : Bytes) (count : Nat) :
    sendLoop cs (count + 1) file count = file.take count :=
  sendLoop_take cs hcs _ _ _ (by omega)

/-- **The body of a 206 is the announced slice, of a 200 the whole file.** -/
theorem body_is_slice (cs : Nat) (hcs : 0 < cs) (content : Bytes) (first last : Nat) :
    sendBytes cs content (partialPlan false content.length first last)
        = (content.drop first).take (last - first + 1) ∧
    sendBytes cs content (fullPlan false content.length) = content :=
  ⟨sendBytes_partial cs hcs content first last, sendBytes_full cs hcs content⟩

/-- a HEAD request never gets a body, whatever the headers -/
theorem head_has_no_body (cs : Nat) (cur : Str) (mt : Nat) (h : CondHdrs) (rng : Option Str)
    (content : Bytes) : (fileResponse cs true cur mt h rng content).body = [] := by
  simp only [fileResponse]
  cases makeResponse cur mt h <;> simp [sendBytes_head]

/-- **Entity-tag comparison, for every list** (RFC 9110 §8.8.3.2): `_etag_match` succeeds iff
the header is the single `*`, or some listed tag carries the current opaque value and — for
the strong comparison of If-Match — is itself not weak.  In particular a list that mixes other
strong tags with the current tag in its weak form `W/"…"` does **not** match strongly, in
whatever order, while it does match weakly (If-None-Match). -/
theorem etagMatch_iff (cur : Str) (tags : List ETag) (weak : Bool) :
    etagMatch cur tags weak = true ↔
      (∃ t, tags = [t] ∧ t.value = [42]) ∨ ∃ t ∈ tags, (weak = true ∨ t.weak = false) ∧ t.value = cur := by
  unfold etagMatch
  rw [Bool.or_eq_true_iff]
  apply or_congr
  · constructor
    · intro h
      split at h
      · next t => exact ⟨t, rfl, by simpa using h⟩
      · cases h
    · rintro ⟨t, rfl, hv⟩; simpa using hv
  · simp [List.any_eq_true]

/-- a strong tag for something else plus the current tag in weak form: If-Match fails (412),
If-None-Match hits (304) — both orders -/
theorem mixed_list_strong_fails (cur other : Str) (h : other ≠ cur) :
    etagMatch cur [⟨false, other⟩, ⟨true, cur⟩] false = false ∧
    etagMatch cur [⟨true, cur⟩, ⟨false, other⟩] false = false ∧
    etagMatch cur [⟨false, other⟩, ⟨true, cur⟩] true = true ∧
    etagMatch cur [⟨true, cur⟩, ⟨false, other⟩] true = true := by
  simp [etagMatch, h]

theorem rfcPrecondition_eq (a b c d : Option Bool) : rfcPrecondition a b c d =
    if a = some false then .precondFailed
    else if a = none ∧ b = some false then .precondFailed
    else if c = some true then .notModified
    else if c = none ∧ d = some true then .notModified
    else .send := by
  rcases a with _ | _ | _ <;> rcases c with _ | _ | _ <;> simp [rfcPrecondition]

theorem if_iff_congr {α} {b c : Prop} [Decidable b] [Decidable c] {x y y' : α} (h : b ↔ c) (hy : y = y') :
    (if b then x else y) = if c then x else y' :=
  ite_congr (propext h) (fun _ => rfl) fun _ => hy

/-- **Conditional requests follow RFC 9110 §13.2.2.**  The cascade in `_make_response` is the
specified precedence: If-Match (strong comparison) first; If-Unmodified-Since only without
If-Match; then If-None-Match (weak comparison); If-Modified-Since only without If-None-Match. -/
theorem conditional_precedence (cur : Str) (mt : Nat) (h : CondHdrs) :
    makeResponse cur mt h =
      rfcPrecondition (h.ifMatch.map (fun ts => etagMatch cur ts false))
        (h.unmodSince.map (fun t => decide ((mt : Int) ≤ t * nsPerSec)))
        (h.ifNoneMatch.map (fun ts => etagMatch cur ts true))
        (h.modSince.map (fun t => decide ((mt : Int) ≤ t * nsPerSec))) := by
  rcases h with ⟨im, inm, um, ms, ir⟩
  rw [rfcPrecondition_eq]
  -- each test of `_make_response` is the corresponding test of the RFC
  refine if_iff_congr ?_ (if_iff_congr ?_ (if_iff_congr ?_ (if_iff_congr ?_ rfl)))
  · cases im <;> simp
  · cases im <;> cases um <;> simp
  · cases inm <;> simp
  · cases inm <;> cases ms <;> simp

/-! ## Part 1b — the file changes between `stat()` and `open()` -/

/-- the source (re-read on every run) still replaces the path `stat()` by the `fstat()` of the
opened descriptor unconditionally -/
theorem fstat_always_adopted : Gen.C15.fstatAlwaysAdopted = true := by decide

/-- **One version of the file.**  Let the file be rewritten in place, replaced or deleted between
`_make_response`'s `stat()` and its `open()`: whatever version `open()` finds (any content, any
size, any mtime — unrelated to what `stat()` saw), a GET answer is self-consistent *with respect
to that opened version*: 200 with its length and all its bytes; 206 with `first ≤ last <` its
size, `Content-Range: first-last/`its size and exactly its bytes `first..last`; 416 with `*/`its
size; or 304/412 decided from the earlier validators; a vanished file gives 404 with no body.
Nothing in status, Content-Range, Content-Length or body depends on the stale `stat()`. -/
theorem race_response_consistent (cs : Nat) (hcs : 0 < cs) (curPre : Str) (mtPre sizePre : Nat) (h : CondHdrs)
    (rng : Option Str) (atOpen : Option (Bytes × Nat)) :
    let r := fileResponseRace true cs false curPre mtPre sizePre h rng atOpen
    (match atOpen with
     | none => r.status = 404 ∧ r.body = []
     | some (content, _) =>
        (r.status = 200 ∧ r.contentRange = .absent ∧ r.contentLength = some (content.length : Int) ∧
          r.body = content) ∨
        (r.status = 206 ∧ ∃ first last, first ≤ last ∧ last < content.length ∧
          r.contentRange = .range first last content.length ∧
          r.contentLength = some ((last - first + 1 : Nat) : Int) ∧
          r.body = (content.drop first).take (last - first + 1)) ∨
        (r.status = 416 ∧ r.contentRange = .unsat content.length ∧ r.body = [])) ∨
    ((r.status = 304 ∨ r.status = 412) ∧ r.contentRange = .absent ∧ r.body = []) := by
  intro r
  simp only [r, fileResponseRace]
  cases makeResponse curPre mtPre h with
  | precondFailed => exact .inr ⟨.inr rfl, rfl, rfl⟩
  | notModified => exact .inr ⟨.inl rfl, rfl, rfl⟩
  | send =>
    left
    match atOpen with
    | none => exact ⟨rfl, rfl⟩
    | some (content, mt) =>
      simp only [if_true]
      rcases prepare_cases false (ifRangeOk mt h) rng content.length with hp | hp | ⟨f, l, hfl, hl, hp⟩
      · left
        simp only [hp, sendBytes_full cs hcs]
        simp [fullPlan]
      · right; right
        simp only [hp]
        simp [unsatPlan, sendBytes]
      · right; left
        simp only [hp, sendBytes_partial cs hcs]
        exact ⟨rfl, f, l, hfl, hl, rfl, rfl, rfl⟩

/-- **Why the fstat must be adopted (counterexample for a model that keeps the stale stat).**
A 10-byte file rewritten in place to 4 bytes inside the window: with the stale size the answer
announces `Content-Length: 10` and carries 4 bytes; `bytes=-2` is answered
`Content-Range: bytes 8-9/10` with no byte at all. -/
theorem stale_stat_mixes_versions :
    let r := fileResponseRace false 3 false [] 0 10 {} none (some ([1, 2, 3, 4], 5))
    let r2 := fileResponseRace false 3 false [] 0 10 {} (some ((ascii "bytes=-2").map (·.toNat))) (some ([1, 2, 3, 4], 5))
    r.status = 200 ∧ r.contentLength = some 10 ∧ r.body = [1, 2, 3, 4] ∧
    r2.status = 206 ∧ r2.contentRange = .range 8 9 10 ∧ r2.body = [] := by
  decide

theorem fileResponse_eq_race (cs : Nat) (isHead : Bool) (cur : Str) (mt sizePre : Nat) (h : CondHdrs)
    (rng : Option Str) (content : Bytes) :
    fileResponse cs isHead cur mt h rng content =
      fileResponseRace true cs isHead cur mt sizePre h rng (some (content, mt)) := by
  unfold fileResponse fileResponseRace
  cases makeResponse cur mt h <;> rfl

/-- **Every GET answer of `FileResponse.prepare` on a regular file is self-consistent**, for
all conditional headers, Range values, contents and chunk sizes: it is one of
* 200, no Content-Range, `Content-Length = size`, body = the file;
* 206, `Content-Range: bytes first-last/size` with `first ≤ last < size`,
  `Content-Length = last-first+1`, body = `file[first .. last]` exactly;
* 416, `Content-Range: bytes */size`, no body;
* 304 or 412, no Content-Range, no body. -/
theorem response_consistent (cs : Nat) (hcs : 0 < cs) (cur : Str) (mt : Nat) (h : CondHdrs)
    (rng : Option Str) (content : Bytes) :
    let r := fileResponse cs false cur mt h rng content
    (r.status = 200 ∧ r.contentRange = .absent ∧ r.contentLength = some (content.length : Int) ∧
        r.body = content) ∨
    (r.status = 206 ∧ ∃ first last, first ≤ last ∧ last < content.length ∧
        r.contentRange = .range first last content.length ∧
        r.contentLength = some ((last - first + 1 : Nat) : Int) ∧
        r.body = (content.drop first).take (last - first + 1)) ∨
    (r.status = 416 ∧ r.contentRange = .unsat content.length ∧ r.body = []) ∨
    ((r.status = 304 ∨ r.status = 412) ∧ r.contentRange = .absent ∧ r.body = []) := by
  have := race_response_consistent cs hcs cur mt 0 h rng (some (content, mt))
  rw [← fileResponse_eq_race] at this
  simpa only [or_assoc] using this

/-! ## Part 2 — confinement

`fs : Fs` is an arbitrary function from absolute paths to what `lstat` finds there; nothing
is assumed about it.  `Resolved fs p` = no component of `p` is a symbolic link, i.e. `p` is
the real location of whatever it names. -/

/-- the F21 repair is present in the source as it is now (`generate()` probes
`_resolve_path_to_response` on every run; removing the check breaks this proof and `confined`) -/
theorem fixpoint_check_present : Gen.C15.resolveFixpointCheck = true := by decide

/-- **Confinement, independent of the repair.**  For every file system, root, file name and
Accept-Encoding, with or without the fixpoint check: if resolving the joined path did not run
into a symlink loop (`hnoloop`), whatever the route serves without follow_symlinks comes from a
location inside the root with no symbolic link at any level, and is a regular file there. -/
theorem confined_partial (fix : Bool) (fs : Fs) (fuel : Nat) (cfg : Cfg) (filename ae : Str) (p : Path) (id : Nat)
    (enc : Option Str) (hfollow : cfg.follow = false) (hroot : fs.lstat cfg.root = .dir)
    (hnoloop : ∀ pp, follow fs fuel (cfg.root ++ pathSegs filename) ≠ .loop pp)
    (h : serveG fix fs fuel cfg filename ae = .file p id enc) :
    cfg.root <+: p ∧ Resolved fs p ∧ fs.lstat p = .file id :=
  serveG_confined hfollow hroot
    (fun _ hc => ⟨_, (realpath_ok (hc.follow_false hfollow).1).resolve_right
      fun ⟨pp, _, hl, _⟩ => hnoloop pp hl⟩) h

/-- **Confinement without follow_symlinks (full statement, for the code as it is now).**
For every file system `fs` (any function from paths to `lstat` results — loops, dangling and
crossing links included), every root that is a directory, every request file name and
Accept-Encoding: if the static route serves a file at all, the bytes come from a location `p`
that is inside the root (component-wise), contains no symbolic link at any level (so `p` *is*
the real location), and is a regular file there — also when a pre-compressed sibling is chosen.
No hypothesis about loops: the fixpoint check makes `Path.resolve()`'s half-resolved answers
unreachable. -/
theorem confined (fs : Fs) (fuel : Nat) (cfg : Cfg) (filename ae : Str) (p : Path) (id : Nat)
    (enc : Option Str) (hfollow : cfg.follow = false) (hroot : fs.lstat cfg.root = .dir)
    (h : serve fs fuel cfg filename ae = .file p id enc) :
    cfg.root <+: p ∧ Resolved fs p ∧ fs.lstat p = .file id := by
  unfold serve at h
  rw [fixpoint_check_present] at h
  exact serveG_confined hfollow hroot
    (fun p' hc => ⟨p', isFixpoint_follow ((hc.follow_false hfollow).2.2 rfl)⟩) h

section
/-- a toy tree: `/r` is the root with `a` (file 1), `out -> ../o/s` and `self -> self`;
`/o/s` (file 2) lies outside -/
def toyFs : Fs := tableFs [
  ([[114]], .dir), ([[114], [97]], .file 1), ([[114], [111, 117, 116]], .link [46, 46, 47, 111, 47, 115]),
  ([[114], [115, 101, 108, 102]], .link [115, 101, 108, 102]),
  ([[111]], .dir), ([[111], [115]], .file 2), ([[114], [97, 46, 103, 122]], .file 3)]
def toyCfg (follow : Bool) : Cfg := { root := [[114]], follow := follow, showIndex := false }

/- The model is evaluated on the toy tree by rewriting with its defining equations (`walk` is
defined by well-founded recursion, which `decide` cannot unfold). -/
attribute [local simp] serve serveG resolvePathG isFixpoint Gen.C15.resolveFixpointCheck toyCfg pathSegs
  splitSlash SLASH DOT DOTDOT realpath follow walk hasNul toyFs tableFs itemNames lexNorm statF fileTarget
  sibling asciiLower findSub isPrefix Gen.C15.encodingExtensions osLstat withExt

set_option linter.unusedSimpArgs false in
example : serve toyFs 8 (toyCfg false) [97] [] = .file [[114], [97]] 1 none := by simp
set_option linter.unusedSimpArgs false in
example : serve toyFs 8 (toyCfg false) [97] [103, 122, 105, 112] = .file [[114], [97, 46, 103, 122]] 3 (some [103, 122, 105, 112]) := by
  simp
set_option linter.unusedSimpArgs false in
example : ∀ pp, follow toyFs 8 ((toyCfg false).root ++ pathSegs [97]) ≠ .loop pp := by
  intro pp; simp

/-- **Finding F21 (why the check is needed): counterexample for the model without it.**  Root
`/r` contains the loop `self -> self` and `out -> ../o/s`.  Without follow_symlinks, `out` is
refused (404) but — in the code before the repair (`fix = false`) — `self/../out` is served
from `/o/s`, outside the root: `Path.resolve()` gives up at the loop, returns `/r/self/../out`
normalised to `/r/out`, which passes `relative_to(root)` lexically, and `FileResponse` then
follows the link.  With the check (`fix = true`) the same request is a 404. -/
theorem f21_symlink_loop_escapes_root :
    serveG false toyFs 8 (toyCfg false) [111, 117, 116] [] = .notFound ∧
    serveG false toyFs 8 (toyCfg false) [115, 101, 108, 102, 47, 46, 46, 47, 111, 117, 116] [] = .file [[111], [115]] 2 none ∧
    ¬ ((toyCfg false).root <+: [[111], [115]]) ∧
    serveG true toyFs 8 (toyCfg false) [115, 101, 108, 102, 47, 46, 46, 47, 111, 117, 116] [] = .notFound := by
  have h : ¬ ((toyCfg false).root <+: [[111], [115]]) := by decide
  simp only [h, not_false_eq_true, true_and]
  -- one call, so that the walks the three requests share are evaluated once
  simp

end

/-- **With follow_symlinks the request path itself still cannot leave the root**: a file or a
listing is produced only if the joined path, normalised *lexically* (dot segments removed
without looking at the disk), stays under the root; only links met while resolving that path
can lead outside. -/
theorem follow_only_via_links (fs : Fs) (fuel : Nat) (cfg : Cfg) (filename ae : Str) (p : Path)
    (hfollow : cfg.follow = true)
    (h : (∃ id enc, serve fs fuel cfg filename ae = .file p id enc) ∨
         serve fs fuel cfg filename ae = .listing p) :
    cfg.root <+: lexNorm (cfg.root ++ pathSegs filename) := by
  rcases h with ⟨id, enc, h⟩ | h
  · obtain ⟨_, hc, _⟩ := serveG_file h
    exact List.isPrefixOf_iff_prefix.mp (hc.follow_true hfollow).1
  · exact List.isPrefixOf_iff_prefix.mp ((serveG_listing h).1.follow_true hfollow).1

/-- **A directory listing only if enabled** — and only of a directory lexically under the
root (which, without follow_symlinks and without the F21 loop case, is a resolved path). -/
theorem listing_only_if_enabled (fs : Fs) (fuel : Nat) (cfg : Cfg) (filename ae : Str) (p : Path)
    (h : serve fs fuel cfg filename ae = .listing p) :
    cfg.showIndex = true ∧ cfg.root <+: p ∧ statF fs fuel p = .dir := by
  obtain ⟨_, hd, hs, hpre⟩ := serveG_listing h
  exact ⟨hs, List.isPrefixOf_iff_prefix.mp hpre, hd⟩

/-- **A pre-compressed sibling is never reached through a link at its own name**: when a
`.br`/`.gz` variant is served, `lstat` of the sibling's own directory entry (in the resolved
directory) says regular file. -/
theorem sibling_not_followed (fs : Fs) (fuel : Nat) (p' : Path) (ae : Str) (q : Path) (id : Nat) (coding : Str)
    (h : fileTarget fs fuel p' ae = .file q id (some coding)) :
    ∃ ext, osLstat fs fuel (withExt p' ext) = .file id := by
  rcases fileTarget_file h with ⟨_, _, hs⟩ | ⟨_, _, hn⟩
  · obtain ⟨ext, _, _, _, hl, _⟩ := sibling_some hs
    exact ⟨ext, hl⟩
  · cases hn

/-- **Absolute file names are refused** (`//host/share`, `/etc/passwd` after `%2F` decoding):
404 before the file system is consulted. -/
theorem absolute_filename_rejected (fs : Fs) (fuel : Nat) (cfg : Cfg) (filename ae : Str)
    (h : filename.head? = some SLASH) : serve fs fuel cfg filename ae = .notFound := by
  simp [serve, serveG, resolvePathG, h]

/-- **A regular file is served itself unless a *regular* pre-compressed sibling exists.**  If
`p` is a real location holding regular file `id` and every entry named `p.br` / `p.gz` is
something else (directory, FIFO, socket, symbolic link, missing), then whatever
Accept-Encoding says the answer is that file, uncompressed — a non-regular sibling neither
replaces it nor makes it disappear. -/
theorem regular_file_served (fs : Fs) (fuel : Nat) (p : Path) (ae : Str) (id : Nat)
    (hres : Resolved fs p) (hnorm : NormalPath p) (hfile : fs.lstat p = .file id)
    (hsib : ∀ e ∈ Gen.C15.encodingExtensions, ∀ i, osLstat fs fuel (withExt p e.1) ≠ .file i) :
    fileTarget fs fuel p ae = .file p id none := by
  unfold fileTarget
  cases hs : sibling fs fuel p ae Gen.C15.encodingExtensions with
  | some x =>
    obtain ⟨ext, _, hm, _, hl, _⟩ := sibling_some hs
    exact absurd hl (hsib _ hm _)
  | none => simp [stat_of_resolved fs fuel p hres hnorm, hfile]

/-- **Confinement along any history of the file system.**  The model keeps no state between
requests (that the implementation does not either is what the history runs of the harness
compare): for every sequence of file systems and requests — the tree may change arbitrarily
from one request to the next — every file served without follow_symlinks is confined in the
file system *current at that request*. -/
theorem confined_history (fuel : Nat) (cfg : Cfg) (hfollow : cfg.follow = false)
    (steps : List (Fs × Str × Str)) (hroot : ∀ s ∈ steps, s.1.lstat cfg.root = .dir) :
    ∀ s ∈ steps, ∀ p id enc, serve s.1 fuel cfg s.2.1 s.2.2 = .file p id enc →
      cfg.root <+: p ∧ Resolved s.1 p ∧ s.1.lstat p = .file id :=
  fun s hs p id enc h => confined s.1 fuel cfg s.2.1 s.2.2 p id enc hfollow (hroot s hs) h

end Aio.C15
