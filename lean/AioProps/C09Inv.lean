import AioProps.C09Moves
/-!
The invariants of the reader that hold after every operation sequence, each as an induction over the
moves of `AioProps/C09Moves.lean`: conservation (`Cons`), the configuration flags and the low-water
mark (`Moves.config`, `Moves.low`), no reader parked beside a recorded exception (`NPE`), and no
stale pause flag (`NoStale`).
-/
namespace Aio.C09
open Aio
variable {c : Codec}

/-- nothing is lost, duplicated or reordered between `StreamReader.feed_data` and the consumer -/
def Cons (w : World c) : Prop := flat w.deliveredR ++ w.buf.flatten = flat w.decodedR

theorem flat_cons (d : Bytes) (l : List Bytes) : flat (d :: l) = flat l ++ d := by
  simp [flat]

def Pres (f : World c → World c) : Prop := ∀ w, Cons w → Cons (f w)

def EntryOn (w : World c) : Prop := w.waitEntryCheck = true

def EPres (f : World c → World c) : Prop := ∀ w, EntryOn w → EntryOn (f w)

def FlagOn (w : World c) : Prop := w.clearOnNeeds = true

def FPres (f : World c → World c) : Prop := ∀ w, FlagOn w → FlagOn (f w)

/-- `low_water < sys.maxsize`: the decoder's per-step output cap is on (`maxLen`) -/
def LowCapped (w : World c) : Prop := w.low < maxsize

def LPres (f : World c → World c) : Prop := ∀ w, LowCapped w → LowCapped (f w)

/-- the repaired `_wait` (`waitEntryCheck = true`): no reader is parked on a live waiter while an
exception is recorded on the stream -/
def NPE (w : World c) : Prop := w.waitEntryCheck = true → w.waiter = true → w.exc = none

def NPres (f : World c → World c) : Prop := ∀ w, NPE w → NPE (f w)

namespace Moves
variable {S : Nat → Prop} {a b : Core}

theorem cons (h : Moves S a b) :
    flat a.deliveredR ++ a.buf.flatten = flat a.decodedR → flat b.deliveredR ++ b.buf.flatten = flat b.decodedR := by
  induction h with
  | refl => exact id
  | trans _ _ h1 h2 => exact h2 ∘ h1
  | wake | fail | park | setLow => exact id
  | feed a d =>
    intro h
    simp only [flat_cons, List.flatten_append, List.flatten_cons, List.flatten_nil, List.append_nil]
    rw [← h, List.append_assoc]
  | pop a data buf' hd =>
    intro h
    simp only [flat_cons]
    rw [← h, List.append_assoc, hd]

theorem config (h : Moves S a b) : b.waitEntryCheck = a.waitEntryCheck ∧ b.clearOnNeeds = a.clearOnNeeds := by
  induction h with
  | trans _ _ h1 h2 => exact ⟨h2.1.trans h1.1, h2.2.trans h1.2⟩
  | _ => exact ⟨rfl, rfl⟩

theorem low (h : Moves S a b) (P : Nat → Prop) (hS : ∀ n, S n → P n) : P a.low → P b.low := by
  induction h with
  | trans _ _ h1 h2 => exact h2 ∘ h1
  | setLow _ n hn => exact fun _ => hS n hn
  | _ => exact id

/-- `wake` and `set_exception` leave no live waiter, and nothing parks beside a recorded exception. -/
theorem npe (h : Moves S a b) :
    (a.waitEntryCheck = true → a.waiter = true → a.exc = none) →
    b.waitEntryCheck = true → b.waiter = true → b.exc = none := by
  induction h with
  | refl => exact id
  | trans _ _ h1 h2 => exact h2 ∘ h1
  | wake | fail => exact fun _ _ hw => nomatch hw
  | feed | pop | setLow => exact id
  | park a hp =>
    intro _ hf _
    have hf : a.waitEntryCheck = true := hf
    simpa [hf] using hp

end Moves

theorem cons_run (ops : List Op) (w : World c) : Cons w → Cons (run w ops) :=
  (steps_run ops (.refl (view w))).moves.cons

theorem config_run (ops : List Op) (w : World c) :
    (run w ops).waitEntryCheck = w.waitEntryCheck ∧ (run w ops).clearOnNeeds = w.clearOnNeeds :=
  (steps_run ops (.refl (view w))).moves.config

theorem npe_run (ops : List Op) (w : World c) : NPE w → NPE (run w ops) :=
  (steps_run ops (.refl (view w))).moves.npe

theorem cons_wake : Pres (c := c) wake := fun _ h => h
theorem cons_failWith (e : Err) : Pres (c := c) (failWith · e) := fun _ h => h
theorem cons_failWith' (w : World c) (e : Err) (h : Cons w) : Cons (failWith w e) := h

theorem entry_wake : EPres (c := c) wake := fun _ h => h
theorem entry_failWith (e : Err) : EPres (c := c) (failWith · e) := fun _ h => h
theorem entry_failWith' (w : World c) (e : Err) (h : EntryOn w) : EntryOn (failWith w e) := h

theorem flag_wake : FPres (c := c) wake := fun _ h => h
theorem flag_failWith (e : Err) : FPres (c := c) (failWith · e) := fun _ h => h
theorem flag_failWith' (w : World c) (e : Err) (h : FlagOn w) : FlagOn (failWith w e) := h

theorem npe_wake : NPres (c := c) wake := fun _ _ _ hw => nomatch hw
theorem npe_failWith (e : Err) : NPres (c := c) (failWith · e) := fun _ h => h
theorem npe_failWith' (w : World c) (e : Err) (h : NPE w) : NPE (failWith w e) := h

theorem lowc_wake : LPres (c := c) wake := fun _ h => h
theorem lowc_failWith (e : Err) : LPres (c := c) (failWith · e) := fun _ h => h
theorem lowc_failWith' (w : World c) (e : Err) (h : LowCapped w) : LowCapped (failWith w e) := h
theorem lowc_readUpTo : ∀ fuel n, LPres (c := c) (readUpTo fuel n) := fun fuel n w =>
  (steps_readUpTo (S := fun _ => False) fuel n (.refl (view w))).moves.low (· < maxsize) fun _ => False.elim
theorem lowc_connectionLost : LPres (c := c) connectionLost := fun w =>
  (moves_connectionLost (S := fun _ => False) (.refl (core w))).low (· < maxsize) fun _ => False.elim

/-! ## no stale pause (repaired parser, `clearOnNeeds = true`)

Not an invariant of the single moves: `pause_reading` sets the flag in the middle of
`HttpParser.feed_data`, which re-establishes the invariant at its end whatever happened inside.
(For `clearOnNeeds = false` it is false: `C09Cex.staleWorld`.) -/

/-- **A NEEDS_INPUT return leaves no pause flag behind** (repaired code, every framing, every
codec, every input): if `HttpPayloadParser.feed_data` returns PAYLOAD_NEEDS_INPUT then `_paused`
is clear. -/
theorem needs_input_clears_pause {c : Codec} (w : World c) (d : Bytes)
    (hf : (ppFeed w d).clearOnNeeds = true) (hr : (ppFeed w d).res = .needs) : (ppFeed w d).paused = false := by
  simp only [ppFeed] at hf hr ⊢
  generalize ppFeedCore w d = W at hf hr ⊢
  by_cases hc : (W.res == .needs && W.clearOnNeeds) = true
  · rw [if_pos hc]
  · -- not cleared here: then the result was not NEEDS_INPUT or the flag is off
    rw [if_neg hc] at hf hr
    rw [hr, hf] at hc
    exact absurd rfl hc

/-- the parser's pause flag is not left over: a live payload parser without pending input and
without error is not paused -/
def NoStale (v : View) : Prop :=
  v.clearOnNeeds = true → v.ppLive = true → v.parserLive = true → v.exc = none → v.hasMore = false → v.paused = false

theorem setExc_exc (w : World c) (e : Err) : (setExc w e).exc = some e := by
  simp only [setExc]; split <;> rfl

theorem noStale_parserFeed (d : Bytes) (w : World c) (h : NoStale (view w)) : NoStale (view (parserFeed w d)) := by
  have key := needs_input_clears_pause { w with raised := none, res := .needs } d
  fun_cases parserFeed w d
  -- by what `feed_data` returned: the flag is clear, or input is pending, or the parser is gone, or an error is set
  case case3 hres => exact fun hf _ _ _ _ => key hf hres
  case case4 => exact fun _ _ _ _ hm => nomatch hm
  case case5 | case7 => exact fun _ hl => nomatch hl
  case case6 => exact fun _ _ _ he => nomatch (setExc_exc _ _).symm.trans he
  all_goals exact h

namespace Steps
variable {S : Nat → Prop} {u v : View}

theorem noStale (h : Steps S u v) : NoStale u → NoStale v := by
  induction h with
  | refl => exact id
  | trans _ _ h1 h2 => exact h2 ∘ h1
  | pop | park | setLow => exact id
  | received w d =>
    simp only [dataReceived]
    split
    · exact id
    · exact noStale_parserFeed d w
  -- after either `connection_lost` the protocol has dropped its parser
  | lost | lostServer => exact fun _ _ _ hp => nomatch hp

end Steps

theorem noStale_run (ops : List Op) (w : World c) : NoStale (view w) → NoStale (view (run w ops)) :=
  (steps_run ops (.refl (view w))).noStale

end Aio.C09
