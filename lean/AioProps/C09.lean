import AioProps.C09Lemmas
import AioProps.C09Cex
import AioProps.C09Inv
/-!
# C09 — property theorems (body decoding: transparent, memory-bounded, always progresses)

Model: `AioModel/C09.lean`.  Every theorem is stated for an arbitrary `Codec` (the decompressor
is a parameter, never an axiom) unless it is a kernel-evaluated counterexample on a toy codec; the
scenarios those evaluate (`staleWorld`, `parkRun`, …) are in `AioProps/C09Cex.lean`.
-/
namespace Aio.C09
open Aio

/-- **Non-vacuity of the codec laws.** The toy expansion codec (byte `b` ↦ `b` copies of `b`, a
genuine bomb shape; byte 0 = corrupt) satisfies every law assumed of a decompressor, with no
overshoot, relative to its one-shot reference decoder. -/
theorem expand_lawful : Codec.Lawful Codec.expand 0 expandOneShot where
  bounded := by
    intro s i m s' o h hm
    have hs := (expandStep_spec h).2
    rw [if_neg (Nat.ne_of_gt hm)] at hs
    rw [hs.1]
    exact List.length_take_le _ _
  progress := by
    intro s i m s' o h ha ho
    have hs := (expandStep_spec h).2
    split at hs
    · rw [hs.2] at ha; cases ha
    · -- nothing handed out under a positive cap: nothing was there, so nothing is kept
      rw [hs.1, List.take_eq_nil_iff] at ho
      rw [hs.2, ho.resolve_left ‹_›, List.drop_nil] at ha
      cases ha
  refines := by
    intro calls s out more full hrun hone
    have ⟨e, _⟩ := expand_run calls [] s out hrun
    unfold expandOneShot at hone
    split at hone
    · cases hone
    · cases hone
      rw [expandAll_append, ← List.nil_append (expandAll (inputsOf calls)), ← e, List.append_assoc]
      exact List.prefix_append out _
  complete := by
    intro calls s out full hrun ha hone
    have ⟨e, z⟩ := expand_run calls [] s out hrun
    have hs : s = [] := List.isEmpty_iff.1 (Bool.not_eq_eq_eq_not.1 ha)
    rw [expandOneShot, z, if_neg Bool.false_ne_true] at hone
    cases hone
    rw [← List.append_nil out, ← hs, e]
    rfl
  sound := by
    intro calls s out hrun _ _
    rw [expandOneShot, (expand_run calls [] s out hrun).2]
    rfl

/-! ## transparency: nothing is lost between the decoder and the application -/

/-- **Conservation (all operation sequences, all codecs, all framings).** Starting from a fresh
reader, after ANY sequence of transport deliveries, peer close, `read(n)`, `readany()`,
`set_read_chunk_size`, `BaseRequest.read()` steps — including every re-entrant
`resume_reading → data_received(b"")` refill that happens inside a read — the bytes handed to
the application followed by the bytes still buffered are exactly the bytes the decoder stage
passed to `StreamReader.feed_data`, in order: nothing is lost, duplicated or reordered. -/
theorem conservation (c : Codec) (limit : Nat) (framing : Framing) (length : Nat)
    (compressed sniff checkEof lax : Bool) (mt : Nat) (clearOnNeeds : Bool) (ops : List Op) :
    let w := run (World.init c limit framing length compressed sniff checkEof lax mt clearOnNeeds) ops
    w.delivered ++ w.buf.flatten = w.decoded := by
  exact cons_run ops _ rfl

/-! ## bounded memory -/

theorem rdFeed_adds_at_most {c : Codec} (w : World c) (d : Bytes) : bsize (rdFeed w d).buf ≤ bsize w.buf + d.length := by
  have happ : bsize (w.buf ++ [d]) ≤ bsize w.buf + d.length := by simp [bsize]
  fun_cases rdFeed w d
  -- nothing is appended (the assertion, empty data) or one piece is; `pause_reading` keeps the buffer
  case case3 => exact ite_elim (fun r : World c => bsize r.buf ≤ bsize w.buf + d.length) (fun _ => happ) fun _ => happ
  case case4 => exact happ
  all_goals exact Nat.le_add_right _ _

theorem decodeFeed_adds_at_most {c : Codec} {slack : Nat} {one : Bytes → Option Bytes} (hc : Codec.Lawful c slack one)
    (w : World c) (chunk : Bytes) (hm : 0 < maxLen w) :
    bsize (decodeFeed w chunk).buf ≤ bsize w.buf + maxLen w + slack := by
  fun_cases decodeFeed w chunk
  case case1 => exact Nat.le_trans (Nat.le_add_right _ _) (Nat.le_add_right _ _)
  case case2 st out hstep _ =>
    have hlen := hc.bounded _ _ _ _ _ hstep hm
    have hrd : bsize (rdFeed { w with dst := st } out).buf ≤ bsize w.buf + out.length := rdFeed_adds_at_most _ out
    exact Nat.le_trans hrd (by omega)

/-- **One decoder step adds at most `max_length + slack` bytes** to the reader buffer (lawful
codec, capped mode), whatever the compression ratio of the input. -/
theorem payFeed_adds_at_most {c : Codec} {slack : Nat} {one : Bytes → Option Bytes} (hc : Codec.Lawful c slack one)
    (w : World c) (chunk : Bytes) (hcomp : w.compressed = true) (hm : 0 < maxLen w) :
    bsize (payFeed w chunk).buf ≤ bsize w.buf + maxLen w + slack := by
  fun_cases payFeed w chunk
  case case1 h _ =>
    have h : (!w.compressed) = true := h
    rw [hcomp] at h
    cases h
  case case2 =>
    -- the sniff changes neither the buffer nor the cap
    exact ite_elim (fun x : World c => bsize (decodeFeed x chunk).buf ≤ bsize w.buf + maxLen w + slack)
      (fun _ => decodeFeed_adds_at_most hc _ chunk hm) fun _ => decodeFeed_adds_at_most hc _ chunk hm

theorem pauseReading_live {c : Codec} {w : World c} (hp : w.parserLive = true) (hl : w.ppLive = true) :
    pauseReading w = { w with readingPaused := true, paused := true, trPaused := w.trPaused || w.connected } := by
  simp [pauseReading, hp, hl]

/-- **The reader asks for a pause as soon as it is above its high-water mark**: after
`StreamReader.feed_data` either the buffer is within `high_water`, or the protocol is marked
reading-paused and (parser and payload parser alive) the payload parser's pause flag is set and
(transport attached) the transport is paused. -/
theorem rdFeed_pauses_above_high {c : Codec} (w : World c) (data : Bytes) (he : w.eof = false)
    (hlive : w.parserLive = true ∧ w.ppLive = true) (hw : bsize w.buf ≤ w.high) :
    let w' := rdFeed w data
    bsize w'.buf ≤ w'.high ∨ (w'.readingPaused = true ∧ w'.paused = true ∧ (w'.connected = true → w'.trPaused = true)) := by
  fun_cases rdFeed w data
  case case1 h => exact absurd (h.symm.trans he) nofun
  case case2 => exact .inl hw
  -- above the mark, `w1` the reader with the piece appended
  case case3 w1 _ =>
    rw [pauseReading_live (w := w1) hlive.1 hlive.2]
    exact .inr ⟨rfl, rfl, fun hc => Bool.or_eq_true_iff.2 (.inr hc)⟩
  case case4 hle => exact .inl (Nat.le_of_not_gt hle)

/-- **The `data_available` loop stops feeding once the parser is paused**: if the payload
parser's pause flag is set on entry with decoder output pending, `drain` returns
HAS_PENDING_INPUT without calling the decoder (buffer unchanged) and clears the flag — the stale
flag of the stale-pause finding is exactly a flag this loop never got to see. -/
theorem drain_respects_pause {c : Codec} (w : World c) (fuel : Nat) (hm : w.more = true) (hp : w.paused = true) :
    (drain (fuel + 1) w).res = .pending ∧ (drain (fuel + 1) w).buf = w.buf ∧ (drain (fuel + 1) w).paused = false := by
  simp [drain, hm, hp]

/- FULL STATEMENT (not proved; see `resident_bounded_partial` below):
   theorem resident_bounded (hc : Codec.Lawful c slack one) (ops) :
     let w := run (World.init c limit framing length true sniff checkEof lax mt) ops
     w.low < maxsize → bsize w.buf ≤ w.high + 2 * (max w.limit w.low + slack)
   Missing: the global induction over all operation sequences carrying the invariant
   "size > high → readingPaused ∧ (connected → trPaused)" and, inside one `feed_data` call,
   "size > high → paused" from each decoder step to the next pause check.  `payFeed_adds_at_most`,
   `rdFeed_pauses_above_high` and `drain_respects_pause` are its local steps; the global bound is checked on every generated run by the
   correspondence harness (model peak = implementation peak) and by the direct oracle. -/

/-- **Resident decoded bytes, one call (partial).** Starting a decoder step within the high-water
mark, the buffer afterwards is within `high_water + max_length + slack`, and if it exceeds the
high-water mark the pause has been requested from all three parties. Independent of the
compression ratio. -/
theorem resident_bounded_partial {c : Codec} {slack : Nat} {one : Bytes → Option Bytes} (hc : Codec.Lawful c slack one)
    (w : World c) (chunk : Bytes) (hcomp : w.compressed = true) (hm : 0 < maxLen w) (hw : bsize w.buf ≤ w.high) :
    bsize (payFeed w chunk).buf ≤ w.high + maxLen w + slack := by
  have := payFeed_adds_at_most hc w chunk hcomp hm
  omega

/-! ## errors -/

/-- **A payload error is sticky and stops delivery.** Once an exception is set on the stream,
every `read(n)` / `readany()` raises exactly that exception and the state (in particular the
bytes delivered to the application) does not change. -/
theorem error_is_sticky {c : Codec} (w : World c) (e : Err) (h : w.exc = some e) :
    (∀ n, step w (.read n) = (w, .err e)) ∧ step w .readAny = (w, .err e) := by
  constructor
  · intro n; simp [step, h]
  · simp [step, readOp, h]

/-- **A corrupt encoding is reported as a payload error** (first feed of a call, Content-Length
and until-EOF framing): if the decompressor raises on the bytes of this read, the stream gets the
`ContentEncodingError`, nothing of this read reaches the reader buffer, and the payload parser
is dropped. (Failures inside the `data_available` drain loop and in chunked framing take the same
`raised → failed → set_exception` path; they are covered by the correspondence run.) -/
theorem corrupt_is_error {c : Codec} (w : World c) (data : Bytes)
    (hl : w.ppLive = true) (hc : w.compressed = true) (hs : w.started = true) (hd : data ≠ [])
    (hf : w.framing = .untilEof)
    (hbad : c.step w.dst data (maxLen w) = none) :
    let w' := parserFeed w data
    w'.exc = some .contentEncoding ∧ w'.buf = w.buf ∧ w'.ppLive = false ∧ w'.hasMore = false := by
  have hd' : data.isEmpty = false := by cases data <;> simp_all
  have hbad' : c.step w.dst data (if w.low ≥ maxsize then 0 else max w.limit w.low) = none := hbad
  simp [parserFeed, hl, hd', ppFeed, ppFeedCore, hf, feedUntilEof, payFeed, decodeFeed, sniffStart, hc, hs, maxLen, hbad',
    setExc]
  split <;> simp

/-- **The incomplete-stream check exists for `deflate` only** (root cause of the finding
"truncated gzip / br / zstd body ends with a clean EOF"): when the encoding is not `deflate`,
`DeflateBuffer.feed_eof` never consults the decoder — whatever its state, end-of-body is
signalled to the reader without error. -/
theorem truncated_clean_eof_counterexample {c : Codec} (w : World c) (h : w.checkEof = false) :
    (payEof w).eof = true ∧ (payEof w).raised = w.raised := by
  simp [payEof, h, rdFeedEof, resumeTransport, wake]
  split <;> simp

/-! ## client_max_size -/

/-- **`BaseRequest.read()` never returns more than `client_max_size`.** Whatever the stream
does, if the read loop returns a body then (for a non-zero limit) its length is within the limit. -/
theorem read_capped {c : Codec} (cms : Nat) (hc : cms ≠ 0) :
    ∀ (fuel : Nat) (w w' : World c) (body : Bytes), reqLoop cms fuel w = (w', .data body) → body.length ≤ cms := by
  intro fuel w w' body h
  replace h : (reqLoop cms fuel w).2 = .data body := by rw [h]
  fun_induction reqLoop cms fuel w
  case case7 hsize _ =>
    -- the only return: the size check just above it did not fire
    injection h with h
    rw [← h]
    simpa [hc] using hsize
  case case8 ih => exact ih h
  all_goals cases h

/-! ## counterexamples on the unchanged code (findings), evaluated by the kernel -/

/-- **Progress fails (stale parser pause).** Chunked body, no compression, limit 4: the first
read carries one 9-byte chunk (over the high-water mark 8) and ends right after it; the consumer
drains it; the second read carries the rest of the body, complete. Then: the buffer is empty,
no EOF, no error, the transport is *not* paused, the parser holds the unparsed input
(`hasMore`) — and the consumer's next read blocks. Nothing will ever call `data_received(b"")`. -/
theorem progress_counterexample_stale_pause :
    staleWorld.buf = [] ∧ staleWorld.eof = false ∧ staleWorld.exc = none ∧ staleWorld.trPaused = false ∧
    staleWorld.connected = true ∧ staleWorld.hasMore = true ∧ staleWorld.tail = staleSeg2.drop 3 ∧ staleWorld.chunkSize = 5 ∧
    staleWorld.delivered = List.replicate 9 88 ∧ (step staleWorld .readAny).2 = .blocked := by
  decide +kernel

/-- The same defect in its two sibling alignments (known findings K9, K10), still on the model of
the code before the repair: the pausing read ends after the chunk's data but before its CRLF, or
inside the next chunk-size line — the body is complete on the wire, 9 of 14 bytes are delivered,
no EOF, no error. -/
theorem progress_counterexample_stale_pause_siblings :
    (staleRun false k9Ops).delivered = List.replicate 9 88 ∧ (staleRun false k9Ops).eof = false ∧
    (staleRun false k9Ops).exc = none ∧ (staleRun false k9Ops).hasMore = true ∧
    (staleRun false k10Ops).delivered = List.replicate 9 88 ∧ (staleRun false k10Ops).eof = false ∧
    (staleRun false k10Ops).exc = none ∧ (staleRun false k10Ops).hasMore = true := by
  decide +kernel

/-! ## the repaired parser (`clearOnNeeds = true`, i.e. `Gen.C09.needsInputClearsPause = true`) -/

/-- **No stale pause, over all operation sequences** (repaired code; all codecs, framings, limits).
After ANY sequence of deliveries, reads, `set_read_chunk_size`, `BaseRequest.read()` steps and
peer close: if the payload parser is alive, no error is set and the parser holds no pending
input, then its pause flag is clear — the precondition of the stale-pause stall
(`progress_counterexample_stale_pause`) is unreachable. -/
theorem no_stale_pause (c : Codec) (limit : Nat) (framing : Framing) (length : Nat)
    (compressed sniff checkEof lax : Bool) (mt : Nat) (ops : List Op) :
    let w := run (World.init c limit framing length compressed sniff checkEof lax mt true) ops
    w.ppLive = true → w.parserLive = true → w.exc = none → w.hasMore = false → w.paused = false := by
  exact noStale_run ops _ (fun _ _ _ _ _ => rfl) (config_run ops _).2

/-- the same for the model instance the driver runs (flag taken from the probe of the source) -/
theorem no_stale_pause_current (hfl : Gen.C09.needsInputClearsPause = true) (c : Codec) (limit : Nat)
    (framing : Framing) (length : Nat) (compressed sniff checkEof lax : Bool) (mt : Nat) (ops : List Op) :
    let w := run (World.init c limit framing length compressed sniff checkEof lax mt Gen.C09.needsInputClearsPause) ops
    w.ppLive = true → w.parserLive = true → w.exc = none → w.hasMore = false → w.paused = false := by
  rw [hfl]; exact no_stale_pause c limit framing length compressed sniff checkEof lax mt ops

/-- **The three stale-pause scenarios reach end-of-body on the repaired parser**: same inputs as
K8 / K9 / K10, consumer keeps reading — all 14 body bytes are delivered, EOF is signalled, no
error, nothing pending. -/
theorem stale_pause_scenarios_repaired :
    (staleRun true k8Ops).delivered = List.replicate 9 88 ++ hello ∧ (staleRun true k8Ops).eof = true ∧
    (staleRun true k9Ops).delivered = List.replicate 9 88 ++ hello ∧ (staleRun true k9Ops).eof = true ∧
    (staleRun true k10Ops).delivered = List.replicate 9 88 ++ hello ∧ (staleRun true k10Ops).eof = true ∧
    (staleRun true k8Ops).exc = none ∧ (staleRun true k9Ops).exc = none ∧ (staleRun true k10Ops).exc = none := by
  decide +kernel

/-- **F19: body lost when the peer closes while the decoder has pending output.** Content-Length
body fully received (1 byte decoding to 200), limit 4; the peer closes; the consumer reads the
16 buffered bytes and then gets `RuntimeError("Connection closed.")` — 184 bytes are lost, EOF is
never signalled. -/
theorem lost_body_counterexample_peer_close :
    f19World.delivered.length = 16 ∧ f19World.eof = false ∧ f19World.exc = none ∧ f19World.buf = [] ∧
    f19World.parserLive = false ∧ (step f19World .readAny).2 = .err .connClosed := by
  decide +kernel

/-- **Body lost when the peer closes while the paused chunked parser holds unparsed input**
(no compression needed): complete chunked body in one read, 9 bytes buffered, peer closes →
`feed_eof` raises `TransferEncodingError`, the 5 remaining bytes are never parsed and even the
9 buffered bytes can no longer be read. -/
theorem lost_body_counterexample_chunked_close :
    chunkCloseWorld.exc = some .transferEncoding ∧ chunkCloseWorld.delivered = [] ∧
    (step chunkCloseWorld .readAny).2 = .err .transferEncoding := by
  decide +kernel

/-- **A parked reader misses the payload error.** `BaseRequest.read()` is parked in `_wait`;
one `data_received` call ends the current HTTP chunk without new output (which completes the
waiter) and then hits a malformed chunk-size line (`set_exception` finds no waiter). The resumed
coroutine re-parks without looking at `_exception`: the error is set, the reader is blocked
forever. -/
theorem parked_reader_misses_error_counterexample :
    parkWorld.exc = some .transferEncoding ∧ parkWorld.reqParked = true ∧ parkWorld.waiter = true ∧
    (step parkWorld (.reqRead 0)).2 = .blocked := by
  decide +kernel

/-! ## the repaired `StreamReader._wait` (`waitRechecks = true`, i.e. `Gen.C09.waitRechecksException = true`) -/

/-- **A resumed reader raises the recorded payload error** (repaired `_wait`; every codec, every
state): a `BaseRequest.read()` that was parked, was woken normally (data, eof or a chunk end) and
finds an exception recorded on the stream raises exactly that exception instead of reading on
or parking again. -/
theorem resumed_reader_raises_recorded_exception {c : Codec} (w : World c) (cms : Nat) (e : Err)
    (hf : w.waitRechecks = true) (hs : w.reqStarted = true) (hp : w.reqParked = true) (hw : w.waiter = false)
    (hk : w.wakeExc = none) (he : w.exc = some e) :
    reqRead w cms = ({ w with reqParked := false }, .err e) := by
  simp [reqRead, hf, hs, hp, hw, hk, he]

/-- The same state on the code before the repair: with nothing buffered the resumed reader parks
again on a fresh waiter — the recorded exception is never looked at (known finding K4). -/
theorem resumed_reader_reparks_unrepaired {c : Codec} (w : World c) (cms : Nat) (e : Err)
    (hf : w.waitRechecks = false) (hf2 : w.waitEntryCheck = false) (hs : w.reqStarted = true) (hp : w.reqParked = true)
    (hw : w.waiter = false) (hk : w.wakeExc = none) (he : w.exc = some e) (hb : w.buf = []) (heof : w.eof = false)
    (hc : w.connected = true) :
    (reqRead w cms).2 = .blocked ∧ (reqRead w cms).1.waiter = true := by
  simp [reqRead, reqLoop, hf, hf2, hs, hp, hw, hk, he, hb, heof, hc]

/-- **The parked-reader scenario on both versions** (kernel-evaluated): same input as
`parked_reader_misses_error_counterexample`; before the repair the last `read()` step blocks
with the error recorded, after the repair it raises the `TransferEncodingError`. -/
theorem parked_reader_scenario_both_versions :
    (parkRun false).exc = some .transferEncoding ∧ (step (parkRun false) (.reqRead 0)).2 = .blocked ∧
    (parkRun true).exc = some .transferEncoding ∧ (step (parkRun true) (.reqRead 0)).2 = .err .transferEncoding := by
  decide +kernel

/-! ## a reader that stays parked: `read(n)`, `readline()`, server-side close -/

theorem parkOrFail_ne_data {c : Codec} (w : World c) (d : Bytes) : (parkOrFail w).2 ≠ .data d :=
  ite_elim (fun r : World c × Out => r.2 ≠ .data d) (fun _ => Out.noConfusion) fun _ =>
    ite_elim (fun r : World c × Out => r.2 ≠ .data d) (fun _ => Out.noConfusion) fun _ => Out.noConfusion

/-- **`read(n)` / `readany()` never return "nothing" in the middle of a body.** A kept coroutine
that gets as far as `_read_nowait` had a non-empty buffer or was at end-of-body — a wake-up
without data (end of an HTTP chunk whose last bytes decode to nothing) parks it again. -/
theorem read_returns_only_with_data_or_eof {c : Codec} (w w' : World c) (n : Option Nat) (d : Bytes)
    (h : parkedRead w n = (w', .data d)) (hb : w.buf = []) : w.eof = true := by
  replace h : (parkedRead w n).2 = .data d := by rw [h]
  revert h
  fun_cases parkedRead w n
  case case1 r hr => exact fun h => absurd h ((resumeGate_some hr).2 d)
  case case2 => exact fun h => absurd h (parkOrFail_ne_data _ d)
  case case3 w0 hgo _ _ =>
    -- it gets as far as `_read_nowait`; `set_read_chunk_size` has touched neither the buffer nor the eof flag
    have hs : w0.buf = w.buf ∧ w0.eof = w.eof := by
      cases n
      · exact ⟨rfl, rfl⟩
      · exact ite_elim (fun x : World c => x.buf = w.buf ∧ x.eof = w.eof) (fun _ => ⟨rfl, rfl⟩) fun _ => ⟨rfl, rfl⟩
    rw [hs.1, hs.2, hb] at hgo
    exact fun _ => by simpa using hgo

/-- **One `readline()` holds at most `max_size` bytes** (`max_size` = the reader's high-water mark
unless given): whatever refills the reader re-entrantly while buffers are taken — a compressed
body whose input has already arrived, any ratio — the line collected so far is checked after
every buffer, so the loop either has raised `LineTooLong` or holds at most `max_size` bytes. -/
theorem readline_collects_at_most_max_size {c : Codec} :
    ∀ (fuel m : Nat) (w : World c), w.lineAcc.length ≤ m → (lineInner fuel m w).2 ≠ .tooLong →
      (lineInner fuel m w).1.lineAcc.length ≤ m := by
  intro fuel m w h hne
  fun_induction lineInner fuel m w
  case case3 => exact absurd rfl hne
  -- a loop that returns the line, or goes on, has just passed the length check
  case case4 hle _ => exact Nat.le_of_not_gt hle
  case case5 hle _ ih => exact ih (Nat.le_of_not_gt hle) hne
  all_goals exact h

theorem lineFinish_data {c : Codec} {r : World c × LineRes} {d : Bytes}
    (h : (lineFinish r).2 = .data d) : r.2 ≠ .tooLong ∧ d = r.1.lineAcc := by
  revert h
  fun_cases lineFinish r
  case case1 => exact nofun
  case case2 hr => exact fun h => ⟨hr ▸ nofun, (Out.data.inj h).symm⟩
  case case3 hr _ => exact fun h => ⟨hr ▸ nofun, (Out.data.inj h).symm⟩
  case case4 => exact fun h => absurd h (parkOrFail_ne_data _ d)

/-- `hacc`: the line a parked coroutine holds has passed the length check, as it has when `lineFinish`
parks it -/
theorem parkedLine_bounded {c : Codec} (w w' : World c) (d : Bytes)
    (hacc : w.reqParked = true → w.lineAcc.length ≤ w.lineMax) (h : parkedLine w = (w', .data d)) :
    d.length ≤ (lineStart w).lineMax := by
  replace h : (parkedLine w).2 = .data d := by rw [h]
  simp only [parkedLine] at h
  split at h
  · rename_i r hr
    exact absurd h ((resumeGate_some hr).2 d)
  · have hW : (lineStart w).lineAcc.length ≤ (lineStart w).lineMax :=
      ite_elim (fun x : World c => x.lineAcc.length ≤ x.lineMax) hacc fun _ => Nat.zero_le _
    have ⟨hne, hd⟩ := lineFinish_data h
    rw [hd]
    exact readline_collects_at_most_max_size _ _ _ hW hne

/-- the line a fresh `readline()` returns is at most `high_water` bytes long -/
theorem readline_result_bounded {c : Codec} (w w' : World c) (d : Bytes)
    (hp : w.reqParked = false) (h : parkedLine w = (w', .data d)) : d.length ≤ w.high := by
  have := parkedLine_bounded w w' d (by simp [hp]) h
  simpa [lineStart, hp] using this

/-- **Server-side close fails the request payload** (`RequestHandler.connection_lost`, clean FIN
included): the payload carries `ConnectionResetError`, and a handler parked in `read()` on the
truncated body is woken with it instead of waiting forever. -/
theorem server_close_fails_parked_handler {c : Codec} (w : World c) (cms : Nat)
    (hs : w.reqStarted = true) (hp : w.reqParked = true) (hw : w.waiter = true) :
    (connectionLostServer w).exc = some .connReset ∧ (reqRead (connectionLostServer w) cms).2 = .err .connReset := by
  simp [connectionLostServer, setExc, hw, reqRead, hs, hp]

/-! ## the `_wait` that checks before parking (`waitEntryCheck = true`, i.e. `Gen.C09.waitChecksExceptionAtEntry = true`) -/

/-- **Parking raises a recorded exception** (repaired `_wait`): wherever a kept reader would park,
it raises the exception recorded on the stream instead. -/
theorem park_raises_recorded_exception {c : Codec} (w : World c) (e : Err)
    (hf : w.waitEntryCheck = true) (he : w.exc = some e) :
    (parkOrFail w).2 = .err e ∧ (parkOrFail w).1.waiter = w.waiter := by
  simp [parkOrFail, hf, he]

/-- **A reader is never parked on a live waiter while an exception is recorded** (repaired
`_wait`; all codecs, framings, limits; ALL operation sequences incl. `read(n)`, `readany()`,
`readline()`, `BaseRequest.read()`, peer close on either side): `set_exception` fails a
registered waiter, and nothing parks once an exception is recorded.  This is the negation of
the known findings K4 and K13 for every reachable state. -/
theorem never_parked_with_exception_recorded (c : Codec) (limit : Nat) (framing : Framing) (length : Nat)
    (compressed sniff checkEof lax : Bool) (mt : Nat) (clearOnNeeds waitRechecks : Bool) (ops : List Op) :
    let w := run (World.init c limit framing length compressed sniff checkEof lax mt clearOnNeeds waitRechecks true) ops
    w.waiter = true → w.exc = none := by
  exact npe_run ops _ (fun _ hw => nomatch hw) (config_run ops _).1

/-- the same for the model instance the driver runs (flags taken from the probes of the source) -/
theorem never_parked_with_exception_recorded_current (hfl : Gen.C09.waitChecksExceptionAtEntry = true)
    (c : Codec) (limit : Nat) (framing : Framing) (length : Nat) (compressed sniff checkEof lax : Bool) (mt : Nat)
    (ops : List Op) :
    let w := run (World.init c limit framing length compressed sniff checkEof lax mt Gen.C09.needsInputClearsPause
      Gen.C09.waitRechecksException Gen.C09.waitChecksExceptionAtEntry) ops
    w.waiter = true → w.exc = none := by
  rw [hfl]; exact never_parked_with_exception_recorded c limit framing length compressed sniff checkEof lax mt _ _ ops

/-- **K13 on both versions** (kernel-evaluated): the parser holds a corrupt chunk as pending input;
`readline()` takes the buffered bytes, the re-entrant refill makes the parser fail
(`ContentEncodingError` recorded while the coroutine runs).  Before the repair the coroutine then
parks — blocked, error recorded, waiter live; after it, `readline()` raises the error. -/
theorem readline_after_own_refill_error_both_versions :
    (step (k13Run false) .preadLine).2 = .blocked ∧ (step (k13Run false) .preadLine).1.exc = some .contentEncoding ∧
    (step (k13Run false) .preadLine).1.waiter = true ∧
    (step (k13Run true) .preadLine).2 = .err .contentEncoding ∧ (step (k13Run true) .preadLine).1.waiter = false := by
  decide +kernel

/-! ## `BaseRequest.read()` keeps the decoder capped -/

/-- **`request.read()` (and `post()`/`text()`/`json()` through it) never lifts the decoder's
output cap**: it raises the read-buffer limit to `client_max_size`, not to "everything" — with a
finite `client_max_size` the reader's low-water mark stays below `sys.maxsize` through the whole
read loop (every re-entrant refill included), so `DeflateBuffer` keeps passing a finite
`max_length = max(read_bufsize, low_water)` and the high-water flow control stays in force. -/
theorem request_read_keeps_decoder_cap {c : Codec} (w : World c) (cms : Nat)
    (hl : w.low < maxsize) (hc : cms < maxsize) :
    (reqRead w cms).1.low < maxsize ∧ maxLen (reqRead w cms).1 = max (reqRead w cms).1.limit (reqRead w cms).1.low := by
  have h1 : (reqRead w cms).1.low < maxsize :=
    (steps_reqRead (S := (· < maxsize)) hc (.refl (view w))).moves.low (· < maxsize) (fun _ => id) hl
  exact ⟨h1, if_neg (Nat.not_le.2 h1)⟩

end Aio.C09
