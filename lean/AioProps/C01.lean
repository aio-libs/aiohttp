import AioProps.C01Lemmas
/-!
# C01 — property theorems: request framing is unambiguous

Model: `AioModel/Http.lean` (= `aiohttp/http_parser.py`, request side, strict mode).
Specification: `AioProps/HttpSpec.lean` (strict RFC 9112 reading).  `cfg` ranges over all limit
configurations, `urlOk` over all behaviours of the un-modelled `yarl`.
-/
namespace Aio.Http
open Aio

/-- **Accepted ⇒ strict reading.** Whatever request head the parser accepts is
`method SP request-target SP HTTP/d.d` (token method, no CTL/whitespace in the target)
followed by field lines each of the form `token ":" OWS value OWS` with a value free of
forbidden control bytes — the field list reported is exactly that reading, in order — and no
singleton header (Content-Length, Host, Transfer-Encoding, …) occurs twice. -/
theorem accepted_request_is_strict (cfg : Cfg) (hstrict : cfg.lax = false) (urlOk : Bool → Bytes → Bool)
    (line : Bytes) (rest : List Bytes) (m : Msg)
    (h : parseRequest cfg urlOk (line :: rest) = .ok m) :
    StrictRequestLine line m.method m.path m.vmajor m.vminor ∧ FieldsOf rest m.headers ∧
    NoSingletonDup m.headers := by
  obtain ⟨hl, hp, _⟩ := parseRequest_ok hstrict h
  exact ⟨hl, parseHeaders_sound hp⟩

/-- **Content-Length together with Transfer-Encoding is rejected** (any parser configuration). -/
theorem cl_with_te_rejected (cfg : Cfg) (hs : List (Bytes × Bytes))
    (hcl : hasName hs bContentLength = true) (hte : hasName hs bTransferEncoding = true) :
    ∃ e, interpretHeaders cfg hs = .error e := by
  fun_cases interpretHeaders cfg hs
  case case1 hnone =>
    -- no Transfer-Encoding value although the name is there
    unfold getHeader at hnone
    split at hnone
    · next hf => exact absurd (List.map_eq_nil_iff.mp hf) ((hasName_iff _ _).mp hte)
    · cases hnone
  case case4 hn => exact absurd hcl hn
  all_goals exact ⟨_, rfl⟩

/-- **Content-Length must be 1*DIGIT.** If a length is derived from the headers then the
(comma-joined) Content-Length value is a non-empty string of ASCII digits: a sign, `_`,
inner or outer whitespace, a comma (two different values), non-ASCII digits or the empty
string are all refused. -/
theorem content_length_decimal (hs : List (Bytes × Bytes)) (n : Nat)
    (h : contentLength hs = .ok (some n)) :
    ∃ v, getHeader hs bContentLength = some v ∧ v ≠ [] ∧ ∀ b ∈ v, 48 ≤ b.toNat ∧ b.toNat ≤ 57 := by
  revert h
  fun_cases contentLength hs
  -- the one branch that returns a length
  case case4 v hg hc _ =>
    intro _
    simp only [Bool.or_eq_true, not_or, Bool.not_eq_true, List.isEmpty_eq_false_iff, Bool.not_eq_eq_eq_not, Bool.not_true,
      Bool.not_eq_false, List.all_eq_true] at hc
    exact ⟨v, hg, hc.1, fun b hb => (digit_table b).mp (hc.2 b hb)⟩
  all_goals exact nofun

/-- **A request's Transfer-Encoding must end in a single `chunked`.** -/
theorem te_single_final_chunked (te : Bytes) (b : Bool) (h : isChunkedTEReq te = .ok b) :
    b = true ∧
    ((splitAll 44 te).map (strip isOWS)).getLast? = some (((splitAll 44 te).map (strip isOWS)).getLast?.getD []) ∧
    lower (((splitAll 44 te).map (strip isOWS)).getLast?.getD []) = bChunked ∧
    (((splitAll 44 te).map (strip isOWS)).filter (fun p => isAscii p && lower p == bChunked)).length ≤ 1 := by
  revert h
  fun_cases isChunkedTEReq te
  -- the one branch that returns `.ok`: at most one `chunked`, and it is the last coding
  case case2 parts n hn last hl hc =>
    intro h
    cases h
    simp only [Bool.and_eq_true, beq_iff_eq] at hc
    exact ⟨rfl, by rw [hl]; rfl, by rw [hl]; exact hc.2, Nat.le_of_not_lt hn⟩
  all_goals exact nofun

/-- **obs-fold is rejected in strict mode**: a field line starting with SP or HTAB. -/
theorem obs_fold_rejected (mf fuel : Nat) (c : UInt8) (t : Bytes) (rest : List Bytes)
    (acc : List (Bytes × Bytes)) (hc : isOWS c = true) :
    parseHeaderLines false mf (fuel + 1) ((c :: t) :: rest) acc = .error .invalidHeader := by
  cases hcut : cut1 58 (c :: t) with
  | none => simp only [parseHeaderLines, hcut, List.isEmpty_cons, Bool.false_eq_true, if_false]
  | some r =>
    obtain ⟨bname, bvalue⟩ := r
    cases bname with
    | nil => simp only [parseHeaderLines, hcut, List.isEmpty_cons, List.isEmpty_nil, Bool.false_eq_true, if_false, if_true]
    | cons x xs =>
      cases (List.cons.inj (cut1_spec 58 (c :: t) (x :: xs) bvalue hcut).1).1
      have hhead : isOWS (c :: xs).head! = true := hc
      simp only [parseHeaderLines, hcut, List.isEmpty_cons, Bool.false_eq_true, if_false, hhead, Bool.true_or, if_true]

/-- **No control bytes in fields, no whitespace around names.** In a strict header section
every name consists of `tchar`s only (so it contains no CTL, SP, HTAB or colon and is not
empty) and every value is free of CR, LF, NUL and every other C0 control except HTAB, and DEL. -/
theorem field_bytes_clean (line k v : Bytes) (h : StrictField line k v) :
    k ≠ [] ∧ (∀ b ∈ k, 33 ≤ b.toNat ∧ b.toNat ≤ 126 ∧ b ≠ 58) ∧
    (∀ b ∈ v, ¬ ((b.toNat < 32 ∧ b ≠ 9) ∨ b = 127)) := by
  obtain ⟨htok, _, hval, _, _⟩ := h
  obtain ⟨hne, htc⟩ := (isToken_iff k).mp htok
  refine ⟨hne, fun b hb => ?_, fun b hb hbad => ?_⟩
  · have := tchar_table b (htc b hb)
    exact ⟨this.1, this.2.1, this.2.2.2.2.2.2.2.1⟩
  · have := List.any_eq_false.mp hval b hb
    exact this (valueForbidden_table b hbad)

/-- **A request line containing a bare LF (or any CTL / whitespace other than its two SP) is
rejected**, however it arrives. -/
theorem bare_lf_request_line_rejected (cfg : Cfg) (hstrict : cfg.lax = false)
    (urlOk : Bool → Bytes → Bool) (line : Bytes) (rest : List Bytes) (h10 : (10 : UInt8) ∈ line) :
    ∃ e, parseRequest cfg urlOk (line :: rest) = .error e := by
  cases hp : parseRequest cfg urlOk (line :: rest) with
  | error e => exact ⟨e, rfl⟩
  | ok m =>
    exfalso
    obtain ⟨⟨mt, v, e, htok, _, htgt, hv⟩, _⟩ := parseRequest_ok hstrict hp
    rw [e] at h10
    simp at h10
    rcases h10 with h | h | h
    · have := tchar_table 10 (((isToken_iff mt).mp htok).2 10 h)
      simp at this
    · exact List.any_eq_false.mp htgt 10 h (targetForbidden_table 10 (.inl (by decide)))
    · -- the version is HTTP/d.d with ASCII digits
      revert hv
      fun_cases parseVersion v
      case case1 x y hd =>
        simp only [Bool.and_eq_true] at hd
        have hx := (versdigit_table x).mp hd.1
        have hy := (versdigit_table y).mp hd.2
        simp at h
        rcases h with rfl | rfl <;> simp at hx hy
      all_goals exact nofun

/-- **HTTP/1.1 requires exactly one Host.** -/
theorem host_required_http11 (cfg : Cfg) (hstrict : cfg.lax = false) (urlOk : Bool → Bytes → Bool)
    (lines : List Bytes) (m : Msg) (h : parseRequest cfg urlOk lines = .ok m)
    (h11 : m.vmajor = 1 ∧ m.vminor = 1) :
    (m.headers.filter (fun kv => lower kv.1 == bHost)).length = 1 := by
  cases lines with
  | nil => cases h
  | cons line rest =>
    obtain ⟨_, hp, hhost⟩ := parseRequest_ok hstrict h
    have hle := (parseHeaders_sound hp).2 bHost (by decide)
    have hpos := List.length_pos_iff.mpr ((hasName_iff _ _).mp (hhost h11))
    omega

end Aio.Http
