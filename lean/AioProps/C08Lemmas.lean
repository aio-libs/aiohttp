import AioModel.C08
/-! C08: the invariant `Inv`; the primitive moves every consumer coroutine is composed of (`Move`, `Reach`),
in terms of which its postcondition `Post` is stated; the two flow-control invariants `PInv` and `XInv`. -/
namespace Aio.C08
open Aio

/-- the bytes currently buffered, in order -/
def rest (s : S) : Bytes := s.bufs.flatten.drop s.off

def nsplits (s : S) : Nat := match s.splits with | none => 0 | some l => l.length

/-- bytes taken by the parked call, not yet returned -/
def pendAcc (s : S) : Bytes := match s.parked with | none => [] | some p => p.acc

structure Inv (s : S) : Prop where
  nonempty : ∀ b ∈ s.bufs, b ≠ []
  off_lt : ∀ b t, s.bufs = b :: t → s.off < b.length
  off_nil : s.bufs = [] → s.off = 0
  size_eq : s.size = (rest s).length
  cons : s.taken ++ rest s = s.fed
  cursor_eq : s.cursor = s.taken.length
  total_eq : s.total = s.fed.length
  sorted : ∀ l, s.splits = some l → l.Pairwise (· < ·)
  range : ∀ l, s.splits = some l → ∀ p ∈ l, s.cursor ≤ p ∧ p ≤ s.total
  inb : ∀ l, s.splits = some l → ∀ p ∈ l, p ∈ s.bounds
  -- `2` is `Gen.C08.highMul` and the literal in `setChunk`; `2 ≤ lowChunks`: an empty buffer may hold one split (`nsplits_le_one`) and must resume
  high_eq : s.high = s.low * 2
  lwc : 2 ≤ s.lowChunks ∧ s.lowChunks ≤ s.highChunks
  tp : s.connected = true → s.tpaused = true → s.paused = true
  bounded : s.paused = false → s.eof = false → s.size ≤ s.high ∧ nsplits s ≤ s.highChunks
  waiter_parked : s.waiter = true → s.parked.isSome ∧ s.fut = .pending
  waiter_empty : s.waiter = true → s.bufs = []
  fut_pending : s.fut = .pending → s.waiter = true

theorem rest_nil {s : S} (h : s.bufs = []) : rest s = [] := by simp [rest, h]

theorem rest_cons {s : S} (hi : Inv s) {b t} (h : s.bufs = b :: t) :
    rest s = b.drop s.off ++ t.flatten := by
  have := hi.off_lt b t h
  simp [rest, h, List.drop_append_of_le_length (Nat.le_of_lt this)]

theorem rest_ne_nil {s : S} (hi : Inv s) (h : s.bufs ≠ []) : rest s ≠ [] := by
  cases hb : s.bufs with
  | nil => exact absurd hb h
  | cons b t =>
    rw [rest_cons hi hb]
    exact List.append_ne_nil_of_left_ne_nil (mt List.drop_eq_nil_iff.mp (Nat.not_le.mpr (hi.off_lt b t hb))) _

theorem cursor_add_size {s : S} (hi : Inv s) : s.cursor + s.size = s.total := by
  rw [hi.cursor_eq, hi.total_eq, hi.size_eq, ← hi.cons, List.length_append]

theorem cursor_le_total {s : S} (hi : Inv s) : s.cursor ≤ s.total := Nat.le.intro (cursor_add_size hi)

theorem bufs_nil_of_size {s : S} (hi : Inv s) (h : s.size = 0) : s.bufs = [] :=
  Decidable.byContradiction fun hb =>
    rest_ne_nil hi hb (List.eq_nil_of_length_eq_zero (by rw [← hi.size_eq, h]))

theorem dropWhile_ge {c : Nat} : ∀ {l : List Nat}, l.Pairwise (· < ·) → ∀ p ∈ l.dropWhile (· < c), c ≤ p
  | [], _, p, hp => by simp at hp
  | a :: l, hs, p, hp => by
    rw [List.dropWhile_cons] at hp
    split at hp
    · exact dropWhile_ge (List.Pairwise.of_cons hs) p hp
    · rename_i ha
      simp at ha
      rcases List.mem_cons.mp hp with rfl | hm
      · exact ha
      · have := List.rel_of_pairwise_cons hs hm
        omega

theorem sorted_const_length {c : Nat} : ∀ {l : List Nat}, l.Pairwise (· < ·) → (∀ p ∈ l, c ≤ p ∧ p ≤ c) → l.length ≤ 1
  | [], _, _ => by simp
  | [_], _, _ => by simp
  | a :: b :: l, hs, hr => by
    have h1 := hr a (by simp)
    have h2 := hr b (by simp)
    have := List.rel_of_pairwise_cons hs (List.mem_cons_self (a := b) (l := l))
    omega

theorem rncSel_cases (b : Bytes) (t : List Bytes) (off : Nat) (n : Option Nat) :
    (rncSel b t off n = (b.drop off, t, 0) ∧ ∀ k, n = some k → b.length - off ≤ k) ∨
    ∃ k, n = some k ∧ k < b.length - off ∧ rncSel b t off n = ((b.drop off).take k, b :: t, off + k) := by
  cases n with
  | none => exact .inl ⟨rfl, nofun⟩
  | some k =>
    by_cases h : k < b.length - off
    · exact .inr ⟨k, rfl, h, if_pos h⟩
    · exact .inl ⟨if_neg h, fun _ e => Option.some.inj e ▸ Nat.not_lt.mp h⟩

theorem wake_eq (s : S) : wake s = { s with waiter := false, fut := if s.waiter then .ok else s.fut } := by
  unfold wake; split
  · rfl
  · rename_i h
    cases s
    simp only [Bool.not_eq_true] at h
    subst h
    rfl

theorem wakeExc_eq (s : S) (e : Nat) :
    wakeExc s e = { s with waiter := false, fut := if s.waiter then .exc e else s.fut } := by
  unfold wakeExc; split
  · rfl
  · rename_i h
    cases s
    simp only [Bool.not_eq_true] at h
    subst h
    rfl

theorem pauseReading_eq (s : S) : pauseReading s =
    { s with paused := true, tpaused := s.connected || s.tpaused,
             evs := if s.connected then s.evs ++ [.pause] else s.evs } := by
  unfold pauseReading; split <;> rename_i h <;> simp only [h] <;> rfl

theorem resumeReading_eq (s : S) : resumeReading s =
    { s with paused := false, tpaused := !s.connected && s.tpaused,
             evs := if s.connected then s.evs ++ [.resume] else s.evs } := by
  unfold resumeReading; split <;> rename_i h <;> simp only [h] <;> rfl

theorem wake_ne_pending {s : S} (hi : Inv s) {x : Fut} (hx : x ≠ .pending) :
    (if s.waiter = true then x else s.fut) ≠ .pending := by
  split
  · exact hx
  · rename_i hw; exact fun h => hw (hi.fut_pending h)

theorem inv_ctl {s : S} (hi : Inv s) (w : Bool) (f : Fut) (p tp : Bool) (ev : List Ev)
    (hw : w = true → s.waiter = true ∧ f = .pending) (hf : f = .pending → w = true)
    (htp : s.connected = true → tp = true → p = true)
    (hbd : p = false → s.eof = false → s.size ≤ s.high ∧ nsplits s ≤ s.highChunks) :
    Inv { s with waiter := w, fut := f, paused := p, tpaused := tp, evs := ev } :=
  { hi with
    tp := htp
    bounded := hbd
    waiter_parked := fun h => ⟨(hi.waiter_parked (hw h).1).1, (hw h).2⟩
    waiter_empty := fun h => hi.waiter_empty (hw h).1
    fut_pending := hf }

theorem chunksLow_iff {s : S} (hi : Inv s) : chunksLow s = true ↔ nsplits s < s.lowChunks := by
  unfold chunksLow nsplits
  cases s.splits with
  | none => exact ⟨fun _ => Nat.lt_of_lt_of_le Nat.two_pos hi.lwc.1, fun _ => rfl⟩
  | some l => exact decide_eq_true_iff

theorem inv_maybeResume {s : S} (hi : Inv s) : Inv (maybeResume s) := by
  unfold maybeResume
  split
  · rename_i h
    simp only [Bool.and_eq_true, decide_eq_true_eq] at h
    rw [resumeReading_eq]
    exact inv_ctl hi _ _ _ _ _ (fun hw => ⟨hw, (hi.waiter_parked hw).2⟩) hi.fut_pending
      (fun hc ht => by simp [hc] at ht)
      (fun _ _ => by
        have := hi.high_eq
        have := (chunksLow_iff hi).mp h.2
        have := hi.lwc
        exact ⟨by omega, by omega⟩)
  · exact hi

theorem inv_splits {s : S} (hi : Inv s) (sp : Option (List Nat))
    (h : ∀ l', sp = some l' → ∃ l, s.splits = some l ∧ l'.Sublist l) : Inv { s with splits := sp } :=
  { hi with
    sorted := fun l' h' => let ⟨l, hl, hs⟩ := h l' h'; (hi.sorted l hl).sublist hs
    range := fun l' h' p hp => let ⟨l, hl, hs⟩ := h l' h'; hi.range l hl p (hs.subset hp)
    inb := fun l' h' p hp => let ⟨l, hl, hs⟩ := h l' h'; hi.inb l hl p (hs.subset hp)
    bounded := fun hp he => ⟨(hi.bounded hp he).1, by
      have h2 := (hi.bounded hp he).2
      show nsplits { s with splits := sp } ≤ _
      cases sp with
      | none => exact Nat.zero_le _
      | some l' =>
        obtain ⟨l, hl, hs⟩ := h l' rfl
        simp only [nsplits, hl] at h2
        exact Nat.le_trans hs.length_le h2⟩ }

theorem maybeResume_flow (s : S) : ∃ p tp ev, maybeResume s = { s with paused := p, tpaused := tp, evs := ev } := by
  unfold maybeResume; split
  · exact ⟨_, _, _, resumeReading_eq s⟩
  · exact ⟨s.paused, s.tpaused, s.evs, rfl⟩

theorem rnc_cons {s : S} {b t} (hb : s.bufs = b :: t) (n : Option Nat) :
    rnc s n = (maybeResume (rncUpd s (rncSel b t s.off n).1 (rncSel b t s.off n).2.1 (rncSel b t s.off n).2.2),
               (rncSel b t s.off n).1) := by
  unfold rnc; rw [hb]

theorem rnc_fields (s : S) (n : Option Nat) : ∃ bufs off size cursor splits taken p tp ev,
    (rnc s n).1 = { s with bufs := bufs, off := off, size := size, cursor := cursor, splits := splits,
                           taken := taken, paused := p, tpaused := tp, evs := ev } := by
  unfold rnc; split
  · exact ⟨s.bufs, s.off, s.size, s.cursor, s.splits, s.taken, s.paused, s.tpaused, s.evs, rfl⟩
  · rename_i b t _
    obtain ⟨p, tp, ev, e⟩ := maybeResume_flow (rncUpd s (rncSel b t s.off n).1 (rncSel b t s.off n).2.1 (rncSel b t s.off n).2.2)
    exact ⟨_, _, _, _, _, _, p, tp, ev, e⟩

/-- fields no consumer-side move ever changes, and the monotone ones -/
structure Frame (s s' : S) : Prop where
  fed : s'.fed = s.fed
  total : s'.total = s.total
  eof : s'.eof = s.eof
  exc : s'.exc = s.exc
  lowChunks : s'.lowChunks = s.lowChunks
  highChunks : s'.highChunks = s.highChunks
  connected : s'.connected = s.connected
  bounds : s'.bounds = s.bounds
  delivered : s'.delivered = s.delivered
  lost : s.lost = true → s'.lost = true
  low : s.low ≤ s'.low
  recheck : s'.recheck = s.recheck

theorem Frame.refl (s : S) : Frame s s := ⟨rfl, rfl, rfl, rfl, rfl, rfl, rfl, rfl, rfl, id, Nat.le_refl _, rfl⟩

theorem Frame.trans {a b c : S} (h1 : Frame a b) (h2 : Frame b c) : Frame a c :=
  ⟨h2.fed.trans h1.fed, h2.total.trans h1.total, h2.eof.trans h1.eof, h2.exc.trans h1.exc,
   h2.lowChunks.trans h1.lowChunks, h2.highChunks.trans h1.highChunks, h2.connected.trans h1.connected,
   h2.bounds.trans h1.bounds, h2.delivered.trans h1.delivered, fun h => h2.lost (h1.lost h),
   Nat.le_trans h1.low h2.low, h2.recheck.trans h1.recheck⟩

theorem frame_rnc (s : S) (n : Option Nat) : Frame s (rnc s n).1 := by
  obtain ⟨_, _, _, _, _, _, _, _, _, e⟩ := rnc_fields s n
  rw [e]; exact ⟨rfl, rfl, rfl, rfl, rfl, rfl, rfl, rfl, rfl, id, Nat.le_refl _, rfl⟩

/-- what `_read_nowait*` never touches -/
structure Quiet (s s' : S) : Prop where
  parked : s'.parked = s.parked
  waiter : s'.waiter = s.waiter
  fut : s'.fut = s.fut
  lost : s'.lost = s.lost
  low : s'.low = s.low
  high : s'.high = s.high
  eof : s'.eof = s.eof
  exc : s'.exc = s.exc
  connected : s'.connected = s.connected
  recheck : s'.recheck = s.recheck

theorem Quiet.refl (s : S) : Quiet s s := ⟨rfl, rfl, rfl, rfl, rfl, rfl, rfl, rfl, rfl, rfl⟩
theorem Quiet.trans {a b c : S} (h1 : Quiet a b) (h2 : Quiet b c) : Quiet a c :=
  ⟨h2.parked.trans h1.parked, h2.waiter.trans h1.waiter, h2.fut.trans h1.fut, h2.lost.trans h1.lost,
   h2.low.trans h1.low, h2.high.trans h1.high, h2.eof.trans h1.eof, h2.exc.trans h1.exc,
   h2.connected.trans h1.connected, h2.recheck.trans h1.recheck⟩

theorem quiet_rnc (s : S) (n : Option Nat) : Quiet s (rnc s n).1 := by
  obtain ⟨_, _, _, _, _, _, _, _, _, e⟩ := rnc_fields s n
  rw [e]; exact ⟨rfl, rfl, rfl, rfl, rfl, rfl, rfl, rfl, rfl, rfl⟩

/-- `_read_nowait_chunk` once `d` has been cut off the front of the buffer, leaving the blocks `bufs` to be read
from offset `off` -/
theorem rnc_cut {s : S} (hi : Inv s) (hne : s.bufs ≠ []) {d : Bytes} {bufs : List Bytes} {off : Nat}
    (h1 : rest s = d ++ bufs.flatten.drop off) (h2 : ∀ c ∈ bufs, c ∈ s.bufs)
    (h3 : ∀ c u, bufs = c :: u → off < c.length) (h4 : bufs = [] → off = 0) :
    ∃ s', maybeResume (rncUpd s d bufs off) = s' ∧ Inv s' ∧ rest s = d ++ rest s' ∧ s'.taken = s.taken ++ d ∧
      s'.bufs = bufs := by
  have hw : s.waiter = false := Bool.eq_false_iff.mpr fun h => hne (hi.waiter_empty h)
  have hsz : s.size = d.length + (bufs.flatten.drop off).length := by rw [hi.size_eq, h1, List.length_append]
  have hd := inv_splits hi (dropSplits s.splits (s.cursor + d.length)) (fun l' h' =>
    let ⟨l, hl, e⟩ := Option.map_eq_some_iff.mp h'; ⟨l, hl, e ▸ List.dropWhile_sublist _⟩)
  have hu : Inv (rncUpd s d bufs off) :=
    { hd with
      nonempty := fun c hc => hi.nonempty c (h2 c hc)
      off_lt := h3
      off_nil := h4
      size_eq := by show s.size - d.length = (bufs.flatten.drop off).length; rw [hsz, Nat.add_sub_cancel_left]
      cons := by show (s.taken ++ d) ++ bufs.flatten.drop off = s.fed; rw [List.append_assoc, ← h1]; exact hi.cons
      cursor_eq := by show s.cursor + d.length = (s.taken ++ d).length; rw [hi.cursor_eq, List.length_append]
      range := fun l' h' p hp =>
        -- the splits below the new cursor were dropped
        let ⟨l, hl, e⟩ := Option.map_eq_some_iff.mp h'
        ⟨dropWhile_ge (hi.sorted l hl) p (e ▸ hp), (hd.range l' h' p hp).2⟩
      bounded := fun hp he => ⟨Nat.le_trans (Nat.sub_le _ _) (hd.bounded hp he).1, (hd.bounded hp he).2⟩
      waiter_parked := fun h => nomatch hw.symm.trans h
      waiter_empty := fun h => nomatch hw.symm.trans h }
  obtain ⟨p, tp, ev, e⟩ := maybeResume_flow (rncUpd s d bufs off)
  have hi' := inv_maybeResume hu
  rw [e] at hi'
  exact ⟨_, e, hi', h1, rfl, rfl⟩

theorem rnc_spec {s : S} (hi : Inv s) (hne : s.bufs ≠ []) (n : Option Nat) :
    Inv (rnc s n).1 ∧ rest s = (rnc s n).2 ++ rest (rnc s n).1 ∧
    (rnc s n).1.taken = s.taken ++ (rnc s n).2 ∧
    (n ≠ some 0 → (rnc s n).2 ≠ []) ∧
    (∀ k, n = some k → (rnc s n).2.length ≤ k) ∧
    -- unless it stopped at the `k` bytes asked for, it took the first block whole
    ((∀ k, n = some k → (rnc s n).2.length < k) → (rnc s n).1.bufs = s.bufs.tail) := by
  cases hb : s.bufs with
  | nil => exact absurd hb hne
  | cons b t =>
    have hoff := hi.off_lt b t hb
    have hd : (b.drop s.off).length = b.length - s.off := List.length_drop
    rw [rnc_cons hb]
    rcases rncSel_cases b t s.off n with ⟨e, hk⟩ | ⟨k, rfl, hk, e⟩ <;> rw [e]
    · obtain ⟨s', es, hi', h1, h2, h3⟩ := rnc_cut hi hne (d := b.drop s.off) (bufs := t) (off := 0) (rest_cons hi hb)
        (fun c hc => hb ▸ List.mem_cons_of_mem _ hc)
        (fun c u hcu => List.length_pos_iff.mpr (hi.nonempty c (hb ▸ hcu ▸ List.mem_cons_of_mem _ List.mem_cons_self)))
        (fun _ => rfl)
      rw [es]
      exact ⟨hi', h1, h2, fun _ => mt List.drop_eq_nil_iff.mp (Nat.not_le.mpr hoff), fun k hk' => hd ▸ hk k hk',
        fun _ => h3⟩
    · have hl : ((b.drop s.off).take k).length = k := by
        rw [List.length_take, hd]; exact Nat.min_eq_left (Nat.le_of_lt hk)
      have hle : s.off + k ≤ b.length := Nat.add_le_of_le_sub' (Nat.le_of_lt hoff) (Nat.le_of_lt hk)
      obtain ⟨s', es, hi', h1, h2, -⟩ := rnc_cut hi hne (d := (b.drop s.off).take k) (bufs := b :: t) (off := s.off + k)
        (by
          rw [rest_cons hi hb]
          show _ = _ ++ (b ++ t.flatten).drop (s.off + k)
          rw [List.drop_append_of_le_length hle, ← List.append_assoc, ← List.drop_drop, List.take_append_drop])
        (fun c hc => hb ▸ hc) (fun c u h => by cases h; exact Nat.add_lt_of_lt_sub' hk) nofun
      rw [es]
      refine ⟨hi', h1, h2, fun hk0 h0 => hk0 ?_, fun k' hk' => ?_, fun hlt => absurd (hl ▸ hlt k rfl) (Nat.lt_irrefl _)⟩
      · rw [← hl, show (b.drop s.off).take k = [] from h0]; rfl
      · cases hk'; exact Nat.le_of_eq hl

/-- Where `_wait` re-checks `_exception` after a wake-up, a call parks only while no error is recorded
(`Move.park`; this is what keeps `XInv`). -/
def NoExcOnRecheck (s : S) : Prop := s.recheck = true → s.exc = none

theorem NoExcOnRecheck.frame {s s' : S} (hx : NoExcOnRecheck s) (q : Frame s s') : NoExcOnRecheck s' :=
  fun h => q.exc ▸ hx (q.recheck ▸ h)

inductive Move : S → S → Bytes → Prop
  | rnc (s : S) (n : Option Nat) (h : s.bufs ≠ []) : Move s (rnc s n).1 (rnc s n).2
  | setChunk (s : S) (n : Nat) : Move s (setChunk s n) []
  | park (s : S) (p : Pend) (hw : s.waiter = false) (hb : s.bufs = [])
      (hx : s.recheck = true → s.exc = none) :
      Move s { s with waiter := true, fut := .pending, parked := some p } []
  | lose (s : S) (b : Bool) : Move s { s with lost := s.lost || b } []
  | setSplits (s : S) (l l' : List Nat) (h : s.splits = some l) (hs : l'.Sublist l) :
      Move s { s with splits := some l' } []
  | unpark (s : S) (hw : s.waiter = false) : Move s { s with parked := none } []

/-- `Reach s s' d`: `s'` is reached from `s` by primitive moves that took exactly `d` out of
the buffer -/
inductive Reach : S → S → Bytes → Prop
  | refl (s : S) : Reach s s []
  | step {a b c : S} {d e : Bytes} : Move a b d → Reach b c e → Reach a c (d ++ e)

theorem Reach.one {a b : S} {d : Bytes} (h : Move a b d) : Reach a b d :=
  List.append_nil d ▸ Reach.step h (Reach.refl b)

theorem Reach.trans {a b c : S} {d e : Bytes} (h1 : Reach a b d) (h2 : Reach b c e) : Reach a c (d ++ e) := by
  induction h1 with
  | refl => simpa using h2
  | step m _ ih => rw [List.append_assoc]; exact Reach.step m (ih h2)

theorem rnc_move {s s' : S} {d : Bytes} {n : Option Nat} (hi : Inv s) (hne : s.bufs ≠ []) (e : rnc s n = (s', d)) :
    Move s s' d ∧ Quiet s s' ∧ Inv s' ∧ (∀ k, n = some k → d.length ≤ k) ∧
    ((∀ k, n = some k → d.length < k) → s'.bufs = s.bufs.tail) := by
  obtain ⟨hi', -, -, -, hle, htl⟩ := rnc_spec hi hne n
  have hm := Move.rnc s n hne
  have hq := quiet_rnc s n
  rw [e] at hm hq hi' hle htl
  exact ⟨hm, hq, hi', hle, htl⟩

theorem setChunk_inv {s : S} (hi : Inv s) (n : Nat) : Inv (setChunk s n) := by
  unfold setChunk
  split
  · rename_i h
    exact { hi with
      high_eq := rfl
      bounded := fun hp he =>
        ⟨Nat.le_trans (hi.bounded hp he).1 (hi.high_eq ▸ Nat.mul_le_mul_right 2 (Nat.le_of_lt h)), (hi.bounded hp he).2⟩ }
  · exact hi

theorem setChunk_parked (s : S) (n : Nat) : (setChunk s n).parked = s.parked := by
  unfold setChunk; split <;> rfl

theorem move_inv {s s' : S} {d : Bytes} (hi : Inv s) (m : Move s s' d) : Inv s' := by
  cases m with
  | rnc n h => exact (rnc_spec hi h n).1
  | setChunk n => exact setChunk_inv hi n
  | park p hw hb hx =>
    exact { hi with
      waiter_parked := fun _ => ⟨rfl, rfl⟩
      waiter_empty := fun _ => hb
      fut_pending := fun _ => rfl }
  | lose b => exact { hi with }
  | setSplits l l' h hs => exact inv_splits hi _ (fun l0 h0 => ⟨l, h, by cases h0; exact hs⟩)
  | unpark hw =>
    exact { hi with
      waiter_parked := fun h => nomatch hw.symm.trans h
      waiter_empty := hi.waiter_empty }

theorem move_frame {s s' : S} {d : Bytes} (m : Move s s' d) : Frame s s' := by
  cases m with
  | rnc n h => exact frame_rnc s n
  | setChunk n =>
    unfold setChunk; split
    · rename_i h; exact ⟨rfl, rfl, rfl, rfl, rfl, rfl, rfl, rfl, rfl, id, Nat.le_of_lt h, rfl⟩
    · exact Frame.refl s
  | lose b => exact ⟨rfl, rfl, rfl, rfl, rfl, rfl, rfl, rfl, rfl, fun h => by simp [h], Nat.le_refl _, rfl⟩
  | park | setSplits | unpark => exact ⟨rfl, rfl, rfl, rfl, rfl, rfl, rfl, rfl, rfl, id, Nat.le_refl _, rfl⟩

theorem move_taken {s s' : S} {d : Bytes} (hi : Inv s) (m : Move s s' d) :
    s'.taken = s.taken ++ d ∧ rest s = d ++ rest s' := by
  cases m with
  | rnc n h => exact ⟨(rnc_spec hi h n).2.2.1, (rnc_spec hi h n).2.1⟩
  | setChunk n => unfold setChunk; split <;> exact ⟨(List.append_nil _).symm, rfl⟩
  | park | lose | setSplits | unpark => exact ⟨(List.append_nil _).symm, rfl⟩

theorem reach_inv {s s' : S} {d : Bytes} (hi : Inv s) (r : Reach s s' d) : Inv s' := by
  induction r with
  | refl => exact hi
  | step m _ ih => exact ih (move_inv hi m)

theorem Reach.closure {R : S → S → Bytes → Prop} (hrefl : ∀ a, R a a [])
    (htrans : ∀ {a b c d e}, R a b d → R b c e → R a c (d ++ e))
    (hmove : ∀ {a b d}, Inv a → Move a b d → R a b d) {s s' : S} {d : Bytes} (hi : Inv s) (r : Reach s s' d) :
    R s s' d := by
  induction r with
  | refl => exact hrefl _
  | step m _ ih => exact htrans (hmove hi m) (ih (move_inv hi m))

theorem reach_frame {s s' : S} {d : Bytes} (hi : Inv s) (r : Reach s s' d) : Frame s s' :=
  Reach.closure (R := fun a b _ => Frame a b) Frame.refl Frame.trans (fun _ m => move_frame m) hi r

theorem reach_taken {s s' : S} {d : Bytes} (hi : Inv s) (r : Reach s s' d) :
    s'.taken = s.taken ++ d ∧ rest s = d ++ rest s' :=
  Reach.closure (R := fun a b d => b.taken = a.taken ++ d ∧ rest a = d ++ rest b)
    (fun _ => ⟨(List.append_nil _).symm, rfl⟩)
    (fun h1 h2 => ⟨by rw [h2.1, h1.1, List.append_assoc], by rw [h1.2, h2.2, List.append_assoc]⟩)
    move_taken hi r

theorem drainN_reach (k : Nat) {s : S} (acc : Bytes) (hi : Inv s) (hk : k ≤ s.bufs.length) :
    ∃ d, Reach s (drainN k s acc).1 d ∧ Quiet s (drainN k s acc).1 ∧ (drainN k s acc).2 = acc ++ d ∧
      (drainN k s acc).1.bufs.length = s.bufs.length - k := by
  fun_induction drainN k s acc with
  | case1 s => exact ⟨[], Reach.refl s, Quiet.refl s, (List.append_nil _).symm, rfl⟩
  | case2 k s _ s' d e ih =>
    have hne : s.bufs ≠ [] := fun h => by rw [h] at hk; cases hk
    obtain ⟨hm, hq, hi', -, htl⟩ := rnc_move hi hne e
    have hl : s'.bufs.length = s.bufs.length - 1 := by rw [htl nofun, List.length_tail]
    obtain ⟨d', hr, hq2, hd, hl2⟩ := ih hi' (hl ▸ Nat.le_sub_one_of_lt hk)
    exact ⟨d ++ d', Reach.step hm hr, hq.trans hq2, by rw [hd, List.append_assoc],
      by rw [hl2, hl, Nat.sub_sub, Nat.add_comm]⟩

theorem takeN_reach (fuel : Nat) {s : S} (n : Nat) (acc : Bytes) (hi : Inv s) :
    ∃ d, Reach s (takeN fuel s n acc).1 d ∧ Quiet s (takeN fuel s n acc).1 ∧ (takeN fuel s n acc).2 = acc ++ d ∧
      d.length ≤ n ∧ (s.bufs.length < fuel → d.length = n ∨ (takeN fuel s n acc).1.bufs = []) := by
  induction fuel generalizing s n acc with
  | zero => exact ⟨[], Reach.refl s, Quiet.refl s, (List.append_nil _).symm, Nat.zero_le _, fun h => nomatch h⟩
  | succ fuel ih =>
    by_cases hb : s.bufs = []
    · simp only [takeN, List.isEmpty_iff.mpr hb, ↓reduceIte]
      exact ⟨[], Reach.refl s, Quiet.refl s, (List.append_nil _).symm, Nat.zero_le _, fun _ => .inr hb⟩
    · simp only [takeN, List.isEmpty_iff, hb, if_false]
      cases e : rnc s (some n) with | mk s' d
      obtain ⟨hm, hq, hi', hle, htl⟩ := rnc_move hi hb e
      have hle := hle n rfl
      simp only []
      split
      · rename_i hz
        exact ⟨d, Reach.one hm, hq, rfl, hle, fun _ => .inl (Nat.le_antisymm hle (Nat.le_of_sub_eq_zero hz))⟩
      · rename_i hz
        have htl := htl fun k hk => Option.some.inj hk ▸ Nat.lt_of_sub_ne_zero hz
        obtain ⟨d', hr, hq2, hd, hdl, hfin⟩ := ih (n - d.length) (acc ++ d) hi'
        refine ⟨d ++ d', Reach.step hm hr, hq.trans hq2, by rw [hd, List.append_assoc],
          by rw [List.length_append]; exact Nat.add_le_of_le_sub' hle hdl, fun hf => ?_⟩
        have : s'.bufs.length < fuel := by
          rw [htl, List.length_tail]
          exact Nat.sub_one_lt_of_le (List.length_pos_iff.mpr hb) (Nat.le_of_lt_succ hf)
        rw [List.length_append]
        exact (hfin this).imp (fun h => by rw [h, Nat.add_sub_cancel' hle]) id

theorem readNowait_reach {s : S} (hi : Inv s) (n : Option Nat) :
    Reach s (readNowait s n).1 (readNowait s n).2 ∧ Quiet s (readNowait s n).1 ∧
      (n = none → (readNowait s n).1.bufs = []) ∧
      (∀ k, n = some k → (readNowait s n).2.length ≤ k ∧
        ((readNowait s n).2.length = k ∨ (readNowait s n).1.bufs = [])) := by
  cases n with
  | none =>
    obtain ⟨d, hr, hq, hd, hl⟩ := drainN_reach s.bufs.length [] hi (Nat.le_refl _)
    rw [List.nil_append] at hd
    exact ⟨hd ▸ hr, hq, fun _ => List.eq_nil_of_length_eq_zero (by rw [readNowait, hl]; omega), nofun⟩
  | some k =>
    obtain ⟨d, hr, hq, hd, hdl, hfin⟩ := takeN_reach (s.bufs.length + 1) k [] hi
    rw [List.nil_append] at hd
    refine ⟨hd ▸ hr, hq, nofun, fun k' hk' => ?_⟩
    cases hk'; rw [readNowait, hd]
    exact ⟨hdl, hfin (by omega)⟩

theorem readNowait_parked {s : S} (hp : s.parked = none) (hi : Inv s) (n : Option Nat) :
    (readNowait s n).1.parked = none := by rw [(readNowait_reach hi n).2.1.parked]; exact hp

/-- continuation kinds that never hold bytes -/
def simpleKind : Kind → Bool
  | .read _ => true
  | .readAny => true
  | .readChunk => true
  | _ => false

/-- a call parked in `read(n)`, `readany` or `readchunk` holds no bytes -/
def AccOk (s : S) : Prop := ∀ p, s.parked = some p → simpleKind p.kind = true → p.acc = []

theorem accok_of_none {s : S} (h : s.parked = none) : AccOk s := by
  intro p hp; rw [h] at hp; cases hp

/-- `r` is the result of running a consumer coroutine from state `s`, having entered with `acc`
already taken: the state moved only by primitive moves; unless bytes were lost to an
exception, what it returned plus what it still holds is `acc` plus what it took -/
structure Post (s : S) (acc : Bytes) (r : S × Out) : Prop where
  reach : ∃ d, Reach s r.1 d ∧ (r.1.lost = false → outBytes r.2 ++ pendAcc r.1 = acc ++ d)
  unparked : r.2 ≠ .blocked → r.1.parked = none
  blocked : r.2 = .blocked → r.1.waiter = true
  accok : AccOk r.1

theorem post_raise {s : S} (hp : s.parked = none) (acc : Bytes) (e : Err) : Post s acc (raise s acc e) := by
  refine ⟨⟨[], Reach.one (Move.lose s (!acc.isEmpty)), ?_⟩, by intro _; exact hp, (by intro h; cases h), accok_of_none hp⟩
  intro hl
  simp only [raise, Bool.or_eq_false_iff, Bool.not_eq_false', List.isEmpty_iff] at hl
  simp [raise, outBytes, pendAcc, hp, hl.2]

theorem post_park {s : S} (hp : s.parked = none) (hb : s.bufs = []) (p : Pend)
    (hk : simpleKind p.kind = true → p.acc = []) (hx : NoExcOnRecheck s) :
    Post s p.acc (park s p) := by
  unfold park
  split
  · exact post_raise hp _ _
  · split
    · exact post_raise hp _ _
    · rename_i hw
      simp at hw
      refine ⟨⟨[], Reach.one (Move.park s p hw hb hx), ?_⟩, by intro h; exact absurd rfl h, by intro _; rfl, ?_⟩
      · intro _; simp [outBytes, pendAcc]
      · intro q hq; simp at hq; subst hq; exact hk

theorem post_of_reach {s s1 : S} {acc d1 : Bytes} {r : S × Out} (h1 : Reach s s1 d1)
    (h2 : Post s1 (acc ++ d1) r) : Post s acc r := by
  obtain ⟨⟨d, hr, hd⟩, hu, hb, ha⟩ := h2
  exact ⟨⟨d1 ++ d, Reach.trans h1 hr, by intro hl; rw [hd hl, List.append_assoc]⟩, hu, hb, ha⟩

theorem post_ret {s s' : S} {acc d : Bytes} {o : Out} (hp : s'.parked = none) (h : Reach s s' d)
    (ho : outBytes o = acc ++ d) (hb : o ≠ .blocked) : Post s acc (s', o) :=
  ⟨⟨d, h, fun _ => by rw [pendAcc, hp, List.append_nil]; exact ho⟩, fun _ => hp, fun h => absurd h hb,
    accok_of_none hp⟩

theorem post_data {s s' : S} {acc d : Bytes} (hp : s'.parked = none) (h : Reach s s' d) :
    Post s acc (s', .data (acc ++ d)) :=
  post_ret hp h rfl nofun

/-- the flow-control invariant behind `no_stuck_pause` -/
structure PInv (s : S) : Prop where
  lowpos : 0 < s.low
  paused_nonempty : s.paused = true → s.bufs ≠ []

theorem PInv.congr {s s' : S} (hp : PInv s) (hl : s'.low = s.low) (hz : s'.paused = s.paused) (hb : s'.bufs = s.bufs) :
    PInv s' :=
  ⟨hl ▸ hp.lowpos, fun h => hb ▸ hp.paused_nonempty (hz ▸ h)⟩

/-- on an empty buffer the cursor has reached `total`, so at most one split is pending -/
theorem nsplits_le_one {s : S} (hi : Inv s) (hb : s.bufs = []) : nsplits s ≤ 1 := by
  have hsz : s.size = 0 := by rw [hi.size_eq, rest_nil hb]; rfl
  have hct := cursor_add_size hi
  unfold nsplits
  split
  · exact Nat.zero_le _
  · rename_i l hl
    exact sorted_const_length (c := s.cursor) (hi.sorted l hl) (fun p hp => by have := hi.range l hl p hp; omega)

theorem pinv_maybeResume {s : S} (hi : Inv (maybeResume s)) (hlow : 0 < s.low) : PInv (maybeResume s) := by
  obtain ⟨_, _, _, e⟩ := maybeResume_flow s
  rw [e] at hi
  refine ⟨by rw [e]; exact hlow, fun hpz hb => ?_⟩
  have hb : s.bufs = [] := by rw [e] at hb; exact hb
  -- an empty buffer is below both low-water marks, so reading was resumed
  have hsz : s.size = 0 := hi.size_eq.trans (congrArg List.length (rest_nil hb))
  have hcl : chunksLow s = true := (chunksLow_iff hi).mpr (by have := nsplits_le_one hi hb; have := hi.lwc; omega)
  unfold maybeResume at hpz
  rw [if_pos (by rw [hcl, hsz, Bool.and_true]; exact decide_eq_true hlow), resumeReading_eq] at hpz
  cases hpz

theorem pinv_move {s s' : S} {d : Bytes} (hi : Inv s) (hp : PInv s) (m : Move s s' d) : PInv s' := by
  cases m with
  | rnc n hne =>
    cases hbs : s.bufs with
    | nil => exact absurd hbs hne
    | cons b t =>
      have hi' := (rnc_spec hi hne n).1
      rw [rnc_cons hbs] at hi' ⊢
      exact pinv_maybeResume hi' hp.lowpos
  | setChunk n =>
    unfold setChunk
    split
    · rename_i h; exact ⟨Nat.zero_lt_of_lt h, hp.paused_nonempty⟩
    · exact hp
  | park | lose | setSplits | unpark => exact hp.congr rfl rfl rfl

theorem pinv_reach {s s' : S} {d : Bytes} (hi : Inv s) (hp : PInv s) (r : Reach s s' d) : PInv s' :=
  Reach.closure (R := fun a b _ => PInv a → PInv b) (fun _ => id) (fun h1 h2 => h2 ∘ h1)
    (fun hi m hp => pinv_move hi hp m) hi r hp

/-- with the `_wait` re-check, nobody stays blocked once an error is recorded -/
def XInv (s : S) : Prop := s.recheck = true → s.exc ≠ none → s.waiter = false

theorem xinv_move {s s' : S} {d : Bytes} (hx : XInv s) (m : Move s s' d) : XInv s' := by
  cases m with
  | rnc n h =>
    have q := quiet_rnc s n
    intro h1 h2; rw [q.waiter]; exact hx (q.recheck ▸ h1) (q.exc ▸ h2)
  | setChunk n => unfold setChunk; split <;> exact hx
  | park p hw hb hxx => intro h1 h2; exact absurd (hxx h1) h2
  | lose | setSplits | unpark => exact hx

theorem xinv_reach {s s' : S} {d : Bytes} (hi : Inv s) (hx : XInv s) (r : Reach s s' d) : XInv s' :=
  Reach.closure (R := fun a b _ => XInv a → XInv b) (fun _ => id) (fun h1 h2 => h2 ∘ h1)
    (fun _ m hx => xinv_move hx m) hi r hx

end Aio.C08
