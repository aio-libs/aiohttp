import AioModel.C09
/-!
# C09 — helper definitions and lemmas

`Codec.Lawful`: the laws assumed of a streaming decompressor (never an axiom: a hypothesis of the
theorems that need it; tested against real zlib/brotli/zstd by `harness/c09.py:check_codec_laws`),
and what the toy codec `Codec.expand` needs to meet them.
-/
namespace Aio.C09
open Aio

/-- drive a codec through a list of `(input, max_length)` calls, concatenating the outputs -/
def Codec.run (c : Codec) : c.St → List (Bytes × Nat) → Option (c.St × Bytes)
  | s, [] => some (s, [])
  | s, (i, m) :: t =>
    match c.step s i m with
    | none => none
    | some (s', o) =>
      match Codec.run c s' t with
      | none => none
      | some (s'', o') => some (s'', o ++ o')

def inputsOf (calls : List (Bytes × Nat)) : Bytes := (calls.map (·.1)).flatten

/-- Laws of a decompressor relative to a one-shot reference decoder.
* `bounded`: a call with `max_length = m > 0` returns at most `m + slack` bytes (`slack = 0` for
  zlib and zstd; Brotli's `process(data, limit)` may overshoot by one 32 KiB block);
* `progress`: `data_available` after a call implies that call produced output;
* `refines`: whatever schedule of calls is used, the concatenated output is a prefix of the
  reference decode of any completion of the input, and equals it once the input is complete and
  nothing is pending;
* `sound`: a stream the decoder has accepted as complete (`eof`, nothing pending) is decodable. -/
structure Codec.Lawful (c : Codec) (slack : Nat) (oneShot : Bytes → Option Bytes) : Prop where
  bounded : ∀ s i m s' o, c.step s i m = some (s', o) → 0 < m → o.length ≤ m + slack
  progress : ∀ s i m s' o, c.step s i m = some (s', o) → c.avail s' = true → o ≠ []
  refines : ∀ calls s out more full, Codec.run c c.init calls = some (s, out) →
    oneShot (inputsOf calls ++ more) = some full → out <+: full
  complete : ∀ calls s out full, Codec.run c c.init calls = some (s, out) → c.avail s = false →
    oneShot (inputsOf calls) = some full → out = full
  sound : ∀ calls s out, Codec.run c c.init calls = some (s, out) → c.avail s = false → c.atEof s = true →
    (oneShot (inputsOf calls)).isSome = true

/-- reference decoder of the toy expansion codec -/
def expandOneShot (i : Bytes) : Option Bytes := if i.any (· == 0) then none else some (expandAll i)

theorem expandAll_append (a b : Bytes) : expandAll (a ++ b) = expandAll a ++ expandAll b :=
  List.flatMap_append

theorem expandStep_spec {p i : Bytes} {m : Nat} {s o : Bytes} (h : expandStep p i m = some (s, o)) :
    i.any (· == 0) = false ∧
    if m = 0 then o = p ++ expandAll i ∧ s = [] else o = (p ++ expandAll i).take m ∧ s = (p ++ expandAll i).drop m := by
  unfold expandStep at h
  split at h
  · cases h
  · refine ⟨Bool.eq_false_iff.2 ‹_›, ?_⟩
    split at h <;> cases h
    · rw [if_pos (beq_iff_eq.1 ‹_›)]; exact ⟨rfl, rfl⟩
    · rw [if_neg (fun e => ‹¬ _› (beq_iff_eq.2 e))]; exact ⟨rfl, rfl⟩

theorem expandStep_append {p i : Bytes} {m : Nat} {s o : Bytes} (h : expandStep p i m = some (s, o)) :
    o ++ s = p ++ expandAll i := by
  have hs := (expandStep_spec h).2
  split at hs
  · rw [hs.1, hs.2, List.append_nil]
  · rw [hs.1, hs.2, List.take_append_drop]

theorem expand_run (calls : List (Bytes × Nat)) (p s out : Bytes) (h : Codec.run Codec.expand p calls = some (s, out)) :
    out ++ s = p ++ expandAll (inputsOf calls) ∧ (inputsOf calls).any (· == 0) = false := by
  fun_induction Codec.run Codec.expand p calls generalizing s out with
  | case1 p => cases h; exact ⟨(List.append_nil p).symm, rfl⟩
  | case2 | case3 => cases h
  | case4 p i m t s1 o1 hs s2 o2 hr ih =>
    cases h
    have ⟨e2, z2⟩ := ih _ _ hr
    have hin : inputsOf ((i, m) :: t) = i ++ inputsOf t := rfl
    rw [hin, expandAll_append, List.any_append, (expandStep_spec hs).1, z2, List.append_assoc, e2, ← List.append_assoc,
      expandStep_append hs, List.append_assoc]
    exact ⟨rfl, rfl⟩

end Aio.C09
