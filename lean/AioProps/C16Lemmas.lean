import AioModel.C16
import AioModel.C16Ref
import AioProps.Basics
/-! # C16 — the jar's invariants, its candidate lists as RFC 6265 matching, what a response leaves alone,
selection as a refinement of §5.4 -/
namespace Aio.C16
open Aio

/-! ## what the property statements are written in -/

/-- the operations the property quantifies over: every Set-Cookie comes with a response URL that has a host -/
def Hostful : Op → Prop
  | .set (some h) _ _ => h ≠ []
  | .set none _ _ => False
  | _ => True

/-- a cookie path with at most one trailing slash -/
def Tame (cp : Str) : Prop := cp = rstripSlash cp ∨ cp = rstripSlash cp ++ [47]

/-- the heap after the optional clean-up of `_do_expiration` -/
def cleanedHeap (j : Jar) : List (Int × Key) :=
  if j.heap.length > Gen.C16.minScheduled && j.heap.length > j.expirations.length * 2 then
    j.heap.filter (fun e => aget e.2 j.expirations == some e.1)
  else j.heap

/-- the RFC 6265 cookie an entry stands for, with the host-only flag and deadline the jar has recorded -/
def absE (j : Jar) (e : Entry) : Ref.RCookie :=
  ⟨e.c.name, e.c.value, e.c.domain, e.c.path, j.hostOnly.contains (e.c.domain, e.c.name), e.c.secure,
    aget e.key j.expirations⟩

def abs (j : Jar) : List Ref.RCookie := j.cookies.map (absE j)

/-! ## association lists -/
section assoc
variable {κ ν : Type} [BEq κ] [LawfulBEq κ]

theorem aget_aset (k k' : κ) (v : ν) (l : List (κ × ν)) :
    aget k (aset k' v l) = if k' == k then some v else aget k l := by
  fun_induction aset k' v l with
  | case1 => rfl
  | case2 k0 v0 t h0 => cases eq_of_beq h0; simp only [aget]; split <;> rfl
  | case3 k0 v0 t h0 ih =>
    simp only [aget, ih]
    split
    · next hk => cases eq_of_beq hk; rw [if_neg (fun h => h0 (by rw [eq_of_beq h, beq_self_eq_true]))]
    · rfl

theorem aget_filter (p : κ → Bool) (k : κ) (l : List (κ × ν)) :
    aget k (l.filter (fun kv => !p kv.1)) = if p k then none else aget k l := by
  induction l with
  | nil => simp only [List.filter_nil, aget, ite_self]
  | cons x t ih =>
    by_cases hk : (x.1 == k) = true
    · cases eq_of_beq hk
      cases hp : p x.1 <;> simp [hp, aget, ih]
    · cases hp : p x.1 <;> simp [hp, aget, ih, hk]

theorem aget_adel (k k' : κ) (l : List (κ × ν)) :
    aget k (adel k' l) = if k == k' then none else aget k l :=
  aget_filter (· == k') k l

theorem aget_mem {k : κ} {v : ν} {l : List (κ × ν)} (h : aget k l = some v) : (k, v) ∈ l := by
  fun_induction aget k l with
  | case1 => cases h
  | case2 k0 v0 t hk => cases eq_of_beq hk; cases h; exact List.mem_cons_self
  | case3 k0 v0 t hk ih => exact List.mem_cons_of_mem _ (ih h)

variable {α : Type} (f : α → κ) (g : α → ν)

theorem aget_foldl_aset (l : List α) (out : List (κ × ν)) (k : κ) (v : ν)
    (h : aget k (l.foldl (fun o a => aset (f a) (g a) o) out) = some v) :
    aget k out = some v ∨ ∃ a ∈ l, f a = k ∧ g a = v := by
  refine foldl_inv (fun o => aget k o = some v → aget k out = some v ∨ ∃ a ∈ l, f a = k ∧ g a = v) _ l out
    (fun o a ha ih h1 => ?_) Or.inl h
  rw [aget_aset] at h1
  split at h1
  · next hk => exact Or.inr ⟨a, ha, eq_of_beq hk, Option.some.inj h1⟩
  · exact ih h1

theorem aget_foldl_aset_isSome (l : List α) (out : List (κ × ν)) (a : α) (ha : a ∈ l) :
    (aget (f a) (l.foldl (fun o a => aset (f a) (g a) o) out)).isSome := by
  obtain ⟨s, t, rfl⟩ := List.append_of_mem ha
  rw [List.foldl_append, List.foldl_cons]
  refine foldl_inv (fun o => (aget (f a) o).isSome) _ t _ (fun o x _ ho => ?_) ?_
  · rw [aget_aset]
    split
    · rfl
    · exact ho
  · rw [aget_aset, beq_self_eq_true]
    rfl

end assoc

theorem mem_sadd {α : Type} [BEq α] [LawfulBEq α] {a b : α} {l : List α} :
    b ∈ sadd a l ↔ b = a ∨ b ∈ l := by
  fun_cases sadd a l with
  | case1 h => exact ⟨Or.inr, fun hb => hb.elim (fun e => e ▸ List.contains_iff_mem.mp h) id⟩
  | case2 => simp only [List.mem_append, List.mem_singleton]; exact or_comm

theorem mem_sdel {α : Type} [BEq α] [LawfulBEq α] (a b : α) (l : List α) :
    b ∈ sdel a l ↔ b ≠ a ∧ b ∈ l := by
  unfold sdel
  simp [List.mem_filter]
  exact and_comm


/-! ## `split` / `accumulate`: the candidate lists are the joins of the non-empty prefixes / suffixes of the split -/

theorem splitCp_ne_nil (sep : Nat) (s : Str) : splitCp sep s ≠ [] := by
  fun_induction splitCp sep s <;> simp

/-- `sep.join(parts)` -/
def joinSep (sep : Nat) : List Str → Str
  | [] => []
  | [p] => p
  | p :: q :: r => p ++ sep :: joinSep sep (q :: r)

theorem joinSep_cons (sep : Nat) (p : Str) {L : List Str} (h : L ≠ []) :
    joinSep sep (p :: L) = p ++ sep :: joinSep sep L := by
  cases L with
  | nil => exact absurd rfl h
  | cons q r => rfl

theorem joinSep_append (sep : Nat) {P Q : List Str} (hP : P ≠ []) (hQ : Q ≠ []) :
    joinSep sep (P ++ Q) = joinSep sep P ++ sep :: joinSep sep Q := by
  induction P with
  | nil => exact absurd rfl hP
  | cons p t ih =>
    cases t with
    | nil => exact joinSep_cons sep p hQ
    | cons q r =>
      show p ++ sep :: joinSep sep (q :: r ++ Q) = (p ++ sep :: joinSep sep (q :: r)) ++ sep :: joinSep sep Q
      rw [ih (List.cons_ne_nil _ _), List.append_assoc]
      rfl

theorem joinSep_splitCp (sep : Nat) (s : Str) : joinSep sep (splitCp sep s) = s := by
  fun_induction splitCp sep s with
  | case1 => rfl
  | case2 t ih => rw [joinSep_cons sep [] (splitCp_ne_nil _ _), ih]; rfl
  | case3 c t hc hsp ih => exact absurd hsp (splitCp_ne_nil _ _)
  | case4 c t hc h r hsp ih => rw [hsp] at ih; cases r <;> exact congrArg (c :: ·) ih

theorem splitCp_append_sep (sep : Nat) (a b : Str) :
    splitCp sep (a ++ sep :: b) = splitCp sep a ++ splitCp sep b := by
  fun_induction splitCp sep a with
  | case1 => simp [splitCp]
  | case2 t ih => simp only [List.cons_append, splitCp, ih, if_true]
  | case3 c t hc hsp ih => exact absurd hsp (splitCp_ne_nil _ _)
  | case4 c t hc h r hsp ih => simp only [List.cons_append, splitCp, ih, hc, if_false, hsp]

theorem splitCp_cut (sep : Nat) (s x y : Str) :
    (∃ P Q, splitCp sep s = P ++ Q ∧ P ≠ [] ∧ Q ≠ [] ∧ joinSep sep P = x ∧ joinSep sep Q = y) ↔
      s = x ++ sep :: y := by
  constructor
  · rintro ⟨P, Q, h, hP, hQ, rfl, rfl⟩
    rw [← joinSep_append sep hP hQ, ← h, joinSep_splitCp]
  · rintro rfl
    exact ⟨_, _, splitCp_append_sep sep x y, splitCp_ne_nil _ _, splitCp_ne_nil _ _,
      joinSep_splitCp _ _, joinSep_splitCp _ _⟩

theorem mem_accumulateGo {α : Type} (f : α → α → α) (l : List α) (a x : α) :
    x ∈ accumulateGo f a l ↔ ∃ p q, l = p ++ q ∧ x = p.foldl f a := by
  fun_induction accumulateGo f a l with
  | case1 a =>
    rw [List.mem_singleton]
    exact ⟨fun h => ⟨[], [], rfl, h⟩, fun ⟨p, q, h, hx⟩ => by
      rw [(List.append_eq_nil_iff.mp h.symm).1] at hx; exact hx⟩
  | case2 a b t ih =>
    rw [List.mem_cons, ih]
    constructor
    · rintro (rfl | ⟨p, q, rfl, rfl⟩)
      · exact ⟨[], b :: t, rfl, rfl⟩
      · exact ⟨b :: p, q, rfl, rfl⟩
    · rintro ⟨p, q, h, rfl⟩
      cases p with
      | nil => exact Or.inl rfl
      | cons b' p' => cases h; exact Or.inr ⟨p', q, rfl, rfl⟩

theorem foldl_join (sep : Nat) (p : List Str) : ∀ a : Str,
    p.foldl (fun acc part => acc ++ sep :: part) a = joinSep sep (a :: p) := by
  induction p with
  | nil => intro a; rfl
  | cons b t ih =>
    intro a
    rw [List.foldl_cons, ih, joinSep_cons sep a (List.cons_ne_nil _ _)]
    cases t with
    | nil => rfl
    | cons c t' => exact List.append_assoc a (sep :: b) _

theorem foldl_join_rev (sep : Nat) (p : List Str) (a : Str) :
    p.foldl (fun acc part => part ++ sep :: acc) a = joinSep sep (p.reverse ++ [a]) := by
  rw [← List.foldr_reverse]
  induction p.reverse with
  | nil => rfl
  | cons b t ih => rw [List.foldr_cons, ih, List.cons_append, joinSep_cons sep b (by simp)]

theorem mem_accumulate_join (sep : Nat) (L : List Str) (x : Str) :
    x ∈ accumulate (fun acc part => acc ++ sep :: part) L ↔
      ∃ P Q, L = P ++ Q ∧ P ≠ [] ∧ joinSep sep P = x := by
  cases L with
  | nil =>
    exact ⟨fun h => (nomatch h), fun ⟨P, Q, h, hP, _⟩ => absurd (List.append_eq_nil_iff.mp h.symm).1 hP⟩
  | cons a l =>
    simp only [accumulate, mem_accumulateGo, foldl_join]
    constructor
    · rintro ⟨p, q, rfl, rfl⟩
      exact ⟨a :: p, q, rfl, List.cons_ne_nil _ _, rfl⟩
    · rintro ⟨P, Q, h, hP, rfl⟩
      cases P with
      | nil => exact absurd rfl hP
      | cons a' p => cases h; exact ⟨p, Q, rfl, rfl⟩

theorem mem_accumulate_join_rev (sep : Nat) (L : List Str) (x : Str) :
    x ∈ accumulate (fun acc part => part ++ sep :: acc) L.reverse ↔
      ∃ P Q, L = P ++ Q ∧ Q ≠ [] ∧ joinSep sep Q = x := by
  cases hM : L.reverse with
  | nil =>
    rw [List.reverse_eq_nil_iff.mp hM]
    exact ⟨fun h => (nomatch h), fun ⟨P, Q, h, hQ, _⟩ => absurd (List.append_eq_nil_iff.mp h.symm).2 hQ⟩
  | cons a l =>
    rw [List.reverse_eq_cons_iff.mp hM]
    simp only [accumulate, mem_accumulateGo, foldl_join_rev]
    constructor
    · rintro ⟨p, q, rfl, rfl⟩
      exact ⟨q.reverse, p.reverse ++ [a], by simp, by simp, rfl⟩
    · rintro ⟨P, Q, h, hQ, rfl⟩
      rcases List.eq_nil_or_concat Q with rfl | ⟨Q0, a', rfl⟩
      · exact absurd rfl hQ
      · rw [List.concat_eq_append, ← List.append_assoc] at h
        obtain ⟨h1, h2⟩ := List.append_inj' h rfl
        cases h2
        exact ⟨Q0.reverse, P.reverse, by rw [← List.reverse_append, ← h1, List.reverse_reverse],
          by rw [List.reverse_reverse, List.concat_eq_append]⟩

/-- **path candidates**: `p` is tried for request path `r` iff `p = r` or `p ++ "/"` is a prefix of `r` -/
theorem mem_pathCands (r p : Str) : p ∈ pathCands r ↔ p = r ∨ (p ++ [47]) <+: r := by
  rw [pathCands, mem_accumulate_join]
  constructor
  · rintro ⟨P, Q, h, hP, rfl⟩
    by_cases hQ : Q = []
    · left; rw [← joinSep_splitCp 47 r, h, hQ, List.append_nil]
    · right
      exact ⟨joinSep 47 Q, by simpa using ((splitCp_cut 47 r _ _).mp ⟨P, Q, h, hP, hQ, rfl, rfl⟩).symm⟩
  · rintro (rfl | ⟨b, hb⟩)
    · exact ⟨_, [], (List.append_nil _).symm, splitCp_ne_nil _ _, joinSep_splitCp _ _⟩
    · obtain ⟨P, Q, h, hP, _, hj, _⟩ := (splitCp_cut 47 r p b).mpr (by simpa using hb.symm)
      exact ⟨P, Q, h, hP, hj⟩

/-- **domain candidates**: `d` is tried for host `h` iff `d = h` or `"." ++ d` is a suffix of `h` -/
theorem mem_domainCands (h d : Str) : d ∈ domainCands h ↔ d = h ∨ (46 :: d) <:+ h := by
  rw [domainCands, mem_accumulate_join_rev]
  constructor
  · rintro ⟨P, Q, hs, hQ, rfl⟩
    by_cases hP : P = []
    · left; rw [← joinSep_splitCp 46 h, hs, hP, List.nil_append]
    · right
      exact ⟨joinSep 46 P, ((splitCp_cut 46 h _ _).mp ⟨P, Q, hs, hP, hQ, rfl, rfl⟩).symm⟩
  · rintro (rfl | ⟨b, hb⟩)
    · exact ⟨[], _, rfl, splitCp_ne_nil _ _, joinSep_splitCp _ _⟩
    · obtain ⟨P, Q, hs, _, hQ, _, hj⟩ := (splitCp_cut 46 h b d).mpr hb.symm
      exact ⟨P, Q, hs, hQ, hj⟩


/-! ## the path test and the domain test against RFC 6265 §5.1.4 / §5.1.3 -/

theorem rstripSlash_getLast (p : Str) : (rstripSlash p).getLast? ≠ some 47 := by
  unfold rstripSlash
  rw [List.getLast?_reverse]
  intro h
  have := List.head?_dropWhile_not (fun c => c == 47) p.reverse
  rw [h] at this
  exact absurd this (by decide)

theorem prefix_snoc_iff (k r : Str) (c : Nat) :
    (k ++ [c]) <+: r ↔ k <+: r ∧ (r.drop k.length).head? = some c := by
  constructor
  · rintro ⟨b, rfl⟩
    refine ⟨⟨c :: b, by simp⟩, ?_⟩
    simp
  · rintro ⟨⟨t, rfl⟩, h⟩
    simp at h
    cases t with
    | nil => simp at h
    | cons x t' =>
      simp at h
      subst h
      exact ⟨t', by simp⟩

/-- the jar's path test (stripped key among the candidates, `len(cookie["path"]) ≤ len(request path)`)
is RFC 6265 path-match for every cookie path with at most one trailing slash -/
theorem pathOK_iff (cp r : Str) (h : Tame cp) :
    (rstripSlash cp ∈ pathCands r ∧ ¬ cp.length > r.length) ↔ Ref.pathMatch r cp = true := by
  have hk := rstripSlash_getLast cp
  unfold Tame at h
  rw [mem_pathCands]
  unfold Ref.pathMatch
  simp only [Bool.or_eq_true, beq_iff_eq, Bool.and_eq_true, List.isPrefixOf_iff_prefix]
  generalize rstripSlash cp = k at h hk
  rcases h with h | h
  · subst h
    simp only [hk, false_or, prefix_snoc_iff]
    constructor
    · rintro ⟨h1 | h1, _⟩
      · exact Or.inl h1.symm
      · exact Or.inr h1
    · rintro (h1 | h1)
      · subst h1; exact ⟨Or.inl rfl, by omega⟩
      · exact ⟨Or.inr h1, by have := h1.1.length_le; omega⟩
  · subst h
    have hl : (k ++ [47]).getLast? = some 47 := by simp
    simp only [hl, true_or, and_true]
    constructor
    · rintro ⟨h1 | h1, h2⟩
      · subst h1; simp at h2
      · exact Or.inr h1
    · rintro (h1 | h1)
      · subst h1; exact ⟨Or.inr (List.prefix_refl _), by omega⟩
      · exact ⟨Or.inr h1, by have := h1.length_le; omega⟩

theorem cons_suffix_append (c : Nat) (d non : Str) : (c :: d) <:+ (non ++ d) ↔ non.getLast? = some c := by
  rw [← List.singleton_append, List.suffix_append_inj_of_length_eq rfl, List.getLast?_eq_some_iff]
  exact ⟨fun ⟨⟨y, hy⟩, _⟩ => ⟨y, hy.symm⟩, fun ⟨y, hy⟩ => ⟨⟨y, hy.symm⟩, rfl⟩⟩

theorem isDomainMatch_iff (d h : Str) (hd : d ≠ []) :
    isDomainMatch d h = true ↔ Ref.domainMatch h d = true := by
  unfold isDomainMatch Ref.domainMatch
  by_cases heq : h = d
  · subst heq; simp
  · by_cases hs : d <:+ h
    · obtain ⟨non, rfl⟩ := hs
      have hlen : d.length ≠ 0 := fun h0 => hd (List.length_eq_zero_iff.mp h0)
      simp [heq, hlen, cons_suffix_append, Bool.and_comm]
    · have : ¬ (46 :: d) <:+ h := fun h46 => hs ((List.suffix_cons 46 d).trans h46)
      simp [heq, hs, this]


/-! ## state invariants (hold after every history, see `inv_run`) -/

structure Inv (j : Jar) : Prop where
  /-- the Morsel's own domain is the key's domain and the key's path is the stripped Morsel path -/
  fields : ∀ e ∈ j.cookies, e.c.domain = e.dom ∧ e.pkey = rstripSlash e.c.path
  /-- one entry per `(domain, path, name)` -/
  uniq : j.cookies.Pairwise (fun a b => a.key ≠ b.key)
  /-- the Morsel cache is never stale -/
  cache : ∀ k v, aget k j.cache = some v → ∀ e ∈ j.cookies, e.key = k → e.c.value = v
  /-- every recorded deadline is scheduled on the heap -/
  heap : ∀ k w, aget k j.expirations = some w → (w, k) ∈ j.heap
  /-- every stored cookie sits under a key of the `_cookies` dict -/
  keysCover : ∀ e ∈ j.cookies, (e.dom, e.pkey) ∈ j.keys

theorem inv_empty : Inv {} := by
  constructor <;> simp [aget]

/-! ### `_expire_cookie` -/

theorem expireCookie_cookies (j : Jar) (w : Int) (k : Key) : (expireCookie j w k).cookies = j.cookies := by
  fun_cases expireCookie j w k <;> rfl

theorem expireCookie_hostOnly (j : Jar) (w : Int) (k : Key) : (expireCookie j w k).hostOnly = j.hostOnly := by
  fun_cases expireCookie j w k <;> rfl

theorem aget_expireCookie (j : Jar) (w : Int) (k k' : Key) :
    aget k' (expireCookie j w k).expirations = if k == k' then some w else aget k' j.expirations := by
  fun_cases expireCookie j w k with
  | case1 h =>
    split
    · next hk => cases eq_of_beq hk; exact eq_of_beq h
    · rfl
  | case2 => exact aget_aset k' k w _

theorem inv_expireCookie {j : Jar} {w : Int} {k : Key} (h : Inv j) : Inv (expireCookie j w k) := by
  fun_cases expireCookie j w k with
  | case1 => exact h
  | case2 =>
    refine ⟨h.fields, h.uniq, h.cache, ?_, h.keysCover⟩
    intro k' w' hk
    simp only [aget_aset] at hk
    split at hk
    · next hkk => cases eq_of_beq hkk; cases hk; exact List.mem_cons_self
    · exact List.mem_cons_of_mem _ (h.heap k' w' hk)

/-! ### deletion -/

theorem deleteCookies_eq (ks : List Key) : ∀ j : Jar, deleteCookies j ks =
    { keys := ks.foldl (fun l k => sadd (k.1, k.2.1) l) j.keys
      hostOnly := j.hostOnly.filter (fun dn => !(ks.map (fun k => (k.1, k.2.2))).contains dn)
      cookies := j.cookies.filter (fun e => !ks.contains e.key)
      expirations := j.expirations.filter (fun kv => !ks.contains kv.1)
      heap := j.heap
      cache := j.cache.filter (fun kv => !ks.contains kv.1) } := by
  induction ks with
  | nil => intro j; simp [deleteCookies, List.filter_eq_self.mpr]
  | cons k t ih =>
    intro j
    have := ih (deleteOne j k)
    simp only [deleteCookies, List.foldl_cons] at this ⊢
    rw [this]
    simp only [deleteOne, adel, sdel, List.filter_filter, List.map_cons, List.contains_cons, Bool.not_or]
    congr 1 <;> exact List.filter_congr (fun x _ => Bool.and_comm _ _)

theorem deleteCookies_cookies (ks : List Key) (j : Jar) (e : Entry) :
    e ∈ (deleteCookies j ks).cookies ↔ e ∈ j.cookies ∧ e.key ∉ ks := by
  rw [deleteCookies_eq]
  simp only [List.mem_filter, Bool.not_eq_true', List.contains_eq_mem, decide_eq_false_iff_not]

theorem aget_deleteCookies (ks : List Key) (j : Jar) (k : Key) :
    aget k (deleteCookies j ks).expirations = if ks.contains k then none else aget k j.expirations := by
  rw [deleteCookies_eq]
  exact aget_filter ks.contains k _

/-- deleting re-establishes the invariants even where a deadline of a deleted key is no longer on the heap
(`_do_expiration` pops the heap first): of the heap only the entries of the other keys are needed -/
theorem inv_deleteCookies (j : Jar) (ks : List Key) (hp : List (Int × Key)) (h : Inv j)
    (hh : ∀ k w, k ∉ ks → aget k j.expirations = some w → (w, k) ∈ hp) :
    Inv (deleteCookies { j with heap := hp } ks) := by
  rw [deleteCookies_eq]
  refine ⟨fun e he => h.fields e (List.mem_filter.mp he).1, h.uniq.filter _, fun k v hv e he hek => ?_, fun k w hw => ?_,
    fun e he => foldl_inv (fun l => (e.dom, e.pkey) ∈ l) _ ks _ (fun l k _ hl => mem_sadd.mpr (Or.inr hl))
      (h.keysCover e (List.mem_filter.mp he).1)⟩
  · rw [aget_filter ks.contains] at hv
    split at hv
    · cases hv
    · exact h.cache k v hv e (List.mem_filter.mp he).1 hek
  · rw [aget_filter ks.contains] at hw
    split at hw
    · cases hw
    · next hn => exact hh k w (by simpa using hn) hw

/-! ### `_do_expiration` -/

def dueKeys (j : Jar) (now : Int) : List Key :=
  (((cleanedHeap j).filter (fun e => e.1 ≤ now)).filter (fun e => aget e.2 j.expirations == some e.1)).map (fun e => e.2)

theorem doExpiration_eq (j : Jar) (now : Int) :
    doExpiration j now =
      deleteCookies { j with heap := (cleanedHeap j).filter (fun e => !(decide (e.1 ≤ now))) } (dueKeys j now) := by
  fun_cases doExpiration j now with
  | case2 => rfl
  | case1 h =>
    have hc : cleanedHeap j = [] := by
      unfold cleanedHeap; rw [List.isEmpty_iff.mp h]; split <;> rfl
    unfold dueKeys
    rw [hc]
    exact congrArg (fun hp => { j with heap := hp }) (List.isEmpty_iff.mp h)

theorem cleanedHeap_mem (j : Jar) (k : Key) (w : Int) (h : (w, k) ∈ j.heap)
    (hk : aget k j.expirations = some w) : (w, k) ∈ cleanedHeap j := by
  fun_cases cleanedHeap j
  · simp [List.mem_filter, h, hk]
  · exact h

theorem mem_dueKeys {j : Jar} {now : Int} {k : Key} (hI : Inv j) :
    k ∈ dueKeys j now ↔ ∃ w, aget k j.expirations = some w ∧ w ≤ now := by
  unfold dueKeys
  simp only [List.mem_map, List.mem_filter]
  constructor
  · rintro ⟨⟨w, k'⟩, ⟨⟨_, h2⟩, h3⟩, rfl⟩
    exact ⟨w, by simpa using h3, by simpa using h2⟩
  · rintro ⟨w, hk, hw⟩
    -- a recorded deadline is on the heap, and the clean-up keeps it there
    exact ⟨(w, k), ⟨⟨cleanedHeap_mem j k w (hI.heap k w hk) hk, by simpa using hw⟩, by simp [hk]⟩, rfl⟩

theorem doExpiration_cookies (j : Jar) (now : Int) (e : Entry) :
    e ∈ (doExpiration j now).cookies ↔ e ∈ j.cookies ∧ e.key ∉ dueKeys j now := by
  rw [doExpiration_eq, deleteCookies_cookies]

theorem doExpiration_cookies_alive (j : Jar) (now : Int) (hI : Inv j) (e : Entry) (he : e ∈ (doExpiration j now).cookies) :
    e ∈ j.cookies ∧ ∀ w, aget e.key j.expirations = some w → now < w := by
  obtain ⟨h1, h2⟩ := (doExpiration_cookies j now e).mp he
  exact ⟨h1, fun w hw => Int.lt_of_not_ge (fun hle => h2 ((mem_dueKeys hI).mpr ⟨w, hw, hle⟩))⟩

theorem aget_doExpiration (j : Jar) (now : Int) (k : Key) :
    aget k (doExpiration j now).expirations =
      if (dueKeys j now).contains k then none else aget k j.expirations := by
  rw [doExpiration_eq, aget_deleteCookies]

theorem inv_doExpiration (j : Jar) (now : Int) (h : Inv j) : Inv (doExpiration j now) := by
  rw [doExpiration_eq]
  refine inv_deleteCookies j _ _ h (fun k w hn hk => ?_)
  refine List.mem_filter.mpr ⟨cleanedHeap_mem j k w (h.heap k w hk) hk, ?_⟩
  by_cases hw : w ≤ now
  · exact absurd ((mem_dueKeys h).mpr ⟨w, hk, hw⟩) hn
  · simpa using hw

theorem doExpiration_noExpired (j : Jar) (now : Int) (h : Inv j) (k : Key) (w : Int)
    (hk : aget k (doExpiration j now).expirations = some w) : now < w := by
  rw [aget_doExpiration] at hk
  split at hk
  · cases hk
  · next hn => exact Int.lt_of_not_ge (fun hw => hn (List.contains_iff_mem.mpr ((mem_dueKeys h).mpr ⟨w, hk, hw⟩)))

theorem doExpiration_exp (j : Jar) (now : Int) (k : Key) (w : Int)
    (h : aget k (doExpiration j now).expirations = some w) : aget k j.expirations = some w := by
  rw [aget_doExpiration] at h
  split at h
  · cases h
  · exact h

theorem doExpiration_exp_keep (j : Jar) (now : Int) (hI : Inv j) (k : Key) (w : Int)
    (h : aget k j.expirations = some w) (hw : now < w) :
    aget k (doExpiration j now).expirations = some w := by
  rw [aget_doExpiration, if_neg]
  · exact h
  · intro hd
    obtain ⟨w', h1, h2⟩ := (mem_dueKeys hI).mp (List.contains_iff_mem.mp hd)
    rw [h] at h1; cases h1; omega

theorem doExpiration_hostOnly_sub (j : Jar) (now : Int) (dn : Str × Str)
    (h : dn ∈ (doExpiration j now).hostOnly) : dn ∈ j.hostOnly := by
  rw [doExpiration_eq, deleteCookies_eq] at h
  exact (List.mem_filter.mp h).1

/-! ### storing -/

theorem pairwise_key_eq {l : List Entry} (h : l.Pairwise (fun a b => a.key ≠ b.key))
    {a b : Entry} (ha : a ∈ l) (hb : b ∈ l) (hk : a.key = b.key) : a = b := by
  induction l with
  | nil => cases ha
  | cons x t ih =>
    rw [List.pairwise_cons] at h
    rcases List.mem_cons.mp ha with rfl | ha' <;> rcases List.mem_cons.mp hb with rfl | hb'
    · rfl
    · exact absurd hk (h.1 b hb')
    · exact absurd hk.symm (h.1 a ha')
    · exact ih h.2 ha' hb'

theorem mem_putEntry_sub (e x : Entry) (l : List Entry) (h : x ∈ putEntry e l) : x = e ∨ x ∈ l := by
  fun_induction putEntry e l with
  | case1 => exact Or.inl (List.mem_singleton.mp h)
  | case2 a t _ => exact (List.mem_cons.mp h).imp_right (List.mem_cons_of_mem _)
  | case3 a t _ ih =>
    rcases List.mem_cons.mp h with h | h
    · exact Or.inr (h ▸ List.mem_cons_self)
    · exact (ih h).imp_right (List.mem_cons_of_mem _)

theorem mem_putEntry_self (e : Entry) (l : List Entry) : e ∈ putEntry e l := by
  fun_induction putEntry e l with
  | case1 => exact List.mem_cons_self
  | case2 => exact List.mem_cons_self
  | case3 a t _ ih => exact List.mem_cons_of_mem _ ih

theorem mem_putEntry_of_mem (e x : Entry) (l : List Entry) (h : x ∈ l) (hk : x.key ≠ e.key) :
    x ∈ putEntry e l := by
  fun_induction putEntry e l with
  | case1 => cases h
  | case2 a t hak =>
    rcases List.mem_cons.mp h with rfl | h
    · exact absurd (eq_of_beq hak) hk
    · exact List.mem_cons_of_mem _ h
  | case3 a t _ ih =>
    exact (List.mem_cons.mp h).elim (fun h => h ▸ List.mem_cons_self) (fun h => List.mem_cons_of_mem _ (ih h))

theorem putEntry_pairwise (e : Entry) (l : List Entry) (h : l.Pairwise (fun a b => a.key ≠ b.key)) :
    (putEntry e l).Pairwise (fun a b => a.key ≠ b.key) := by
  fun_induction putEntry e l with
  | case1 => exact List.pairwise_singleton _ _
  | case2 a t hak =>
    rw [List.pairwise_cons] at h ⊢
    exact ⟨fun b hb => eq_of_beq hak ▸ h.1 b hb, h.2⟩
  | case3 a t hak ih =>
    rw [List.pairwise_cons] at h ⊢
    refine ⟨fun b hb => ?_, ih h.2⟩
    rcases mem_putEntry_sub e b t hb with rfl | hb
    · exact fun hk => hak (by rw [hk, beq_self_eq_true])
    · exact h.1 b hb

theorem putEntry_key (e x : Entry) (l : List Entry) (h : l.Pairwise (fun a b => a.key ≠ b.key))
    (hx : x ∈ putEntry e l) (hk : x.key = e.key) : x = e :=
  pairwise_key_eq (putEntry_pairwise e l h) hx (mem_putEntry_self e l) hk

theorem inv_storeEntry (j : Jar) (e : Entry) (h : Inv j)
    (he : e.c.domain = e.dom ∧ e.pkey = rstripSlash e.c.path) : Inv (storeEntry j e) := by
  unfold storeEntry
  constructor
  · intro x hx
    rcases mem_putEntry_sub e x _ hx with rfl | hx
    · exact he
    · exact h.fields x hx
  · exact putEntry_pairwise e _ h.uniq
  · intro k v hk x hx hxk
    simp only [aget_adel] at hk
    split at hk
    · cases hk
    · next hne =>
      rcases mem_putEntry_sub e x _ hx with rfl | hx
      · exact absurd (by rw [hxk, beq_self_eq_true]) hne
      · exact h.cache k v hk x hx hxk
  · exact h.heap
  · intro x hx
    rcases mem_putEntry_sub e x _ hx with rfl | hx
    · exact mem_sadd.mpr (Or.inl rfl)
    · exact mem_sadd.mpr (Or.inr (h.keysCover x hx))


/-! ### `update_cookies` -/

theorem normDomain_fst (j : Jar) (host : Option Str) (name d : Str) :
    (normDomain j host name d).1 = j ∨
      ∃ h, host = some h ∧ (normDomain j host name d).1 = { j with hostOnly := sadd (h, name) j.hostOnly } := by
  cases host with
  | none => exact Or.inl rfl
  | some h =>
    unfold normDomain
    dsimp only
    generalize (if (d.getLast? == some 46) = true then ([] : Str) else d) = d'
    cases hd : d'.isEmpty
    · left; simp only [Bool.false_eq_true, if_false]
    · right; exact ⟨h, rfl, by simp only [if_true]⟩

/-- the loop body of `update_cookies` is at most three updates: a host-only mark for the response host, then a
deadline and a stored entry under a domain the host is not rejected for; what each of them keeps, the loop body keeps -/
theorem acceptOne_elim (P : Jar → Prop) {now : Int} {host : Option Str} {rpath : Str} {j : Jar} {r : Raw} (h : P j)
    (mark : ∀ hst, host = some hst → P { j with hostOnly := sadd (hst, r.name) j.hostOnly })
    (expire : ∀ j' w k, rejected host k.1 = false → P j' → P (expireCookie j' w k))
    (store : ∀ j' e, rejected host e.dom = false → e.c.domain = e.dom → e.pkey = rstripSlash e.c.path →
      P j' → P (storeEntry j' e)) :
    P (acceptOne now host rpath j r) := by
  have hn : P (normDomain j host r.name r.domain).1 := by
    rcases normDomain_fst j host r.name r.domain with e | ⟨hst, hh, e⟩ <;> rw [e]
    · exact h
    · exact mark hst hh
  unfold acceptOne
  generalize normDomain j host r.name r.domain = nd at hn
  refine ite_elim P (fun _ => hn) (fun hr => store _ _ (Bool.eq_false_iff.mpr hr) rfl rfl ?_)
  split
  · exact expire _ _ _ (Bool.eq_false_iff.mpr hr) hn
  · exact hn
  · split
    · exact ite_elim P (fun _ => hn) (fun _ => expire _ _ _ (Bool.eq_false_iff.mpr hr) hn)
    · exact hn

theorem inv_acceptOne (now : Int) (host : Option Str) (rpath : Str) (j : Jar) (r : Raw) (h : Inv j) :
    Inv (acceptOne now host rpath j r) :=
  acceptOne_elim Inv h (fun _ _ => ⟨h.fields, h.uniq, h.cache, h.heap, h.keysCover⟩)
    (fun _ _ _ _ => inv_expireCookie) (fun j' e _ hd hp h' => inv_storeEntry j' e h' ⟨hd, hp⟩)

theorem inv_update {allowIp : Bool} {now : Int} {host : Option Str} {rpath : Str} {j : Jar} {rs : List Raw}
    (h : Inv j) : Inv (update allowIp now host rpath j rs) := by
  fun_cases update allowIp now host rpath j rs
  · exact h
  · exact inv_doExpiration _ _ (foldl_inv Inv _ rs j (fun j r _ => inv_acceptOne now host rpath j r) h)

/-! ### `filter_cookies` -/

theorem assign_eq (j : Jar) (out : List (Str × Str)) (e : Entry) (h : Inv j) (he : e ∈ j.cookies) :
    ∃ c, assign (j, out) e = ({ j with cache := c }, aset e.c.name e.c.value out) ∧ Inv { j with cache := c } := by
  unfold assign sendValue
  cases hc : aget e.key j.cache with
  | some v => exact ⟨j.cache, by rw [h.cache _ _ hc e he rfl], h⟩
  | none =>
    refine ⟨_, rfl, h.fields, h.uniq, ?_, h.heap, h.keysCover⟩
    intro k v hk x hx hxk
    simp only [aget_aset] at hk
    split at hk
    · next hek =>
      cases pairwise_key_eq h.uniq hx he (hxk.trans (eq_of_beq hek).symm)
      exact Option.some.inj hk
    · exact h.cache k v hk x hx hxk

theorem foldl_assign (hs : List Entry) : ∀ (j : Jar) (out : List (Str × Str)), Inv j →
    (∀ e ∈ hs, e ∈ j.cookies) →
    ∃ c, hs.foldl assign (j, out) = ({ j with cache := c }, hs.foldl (fun o e => aset e.c.name e.c.value o) out) ∧
      Inv { j with cache := c } := by
  induction hs with
  | nil => intro j out h _; exact ⟨j.cache, rfl, h⟩
  | cons e t ih =>
    intro j out h hsub
    obtain ⟨c, hc, hI⟩ := assign_eq j out e h (hsub e List.mem_cons_self)
    obtain ⟨c', hc', hI'⟩ := ih { j with cache := c } (aset e.c.name e.c.value out) hI
      (fun x hx => hsub x (List.mem_cons_of_mem _ hx))
    exact ⟨c', by rw [List.foldl_cons, hc, hc']; rfl, hI'⟩

theorem hits_sub {allowIp : Bool} {j : Jar} {host rpath : Str} {sec : Bool} :
    ∀ e ∈ hits allowIp j host rpath sec, e ∈ j.cookies := by
  intro e
  fun_cases hits allowIp j host rpath sec
  · exact fun he => (List.mem_filter.mp he).1
  · intro he
    rcases List.mem_append.mp he with he | he
    · exact (List.mem_filter.mp he).1
    · simp only [atKey, List.mem_flatMap, List.mem_filter] at he
      obtain ⟨_, _, ⟨he, _⟩, _⟩ := he
      exact he

theorem filter_spec (allowIp : Bool) (now : Int) (j : Jar) (host rpath : Str) (sec : Bool) (h : Inv j) :
    Inv (filter allowIp now j host rpath sec).1 ∧
    (filter allowIp now j host rpath sec).1.cookies = (doExpiration j now).cookies ∧
    (filter allowIp now j host rpath sec).2 =
      (hits allowIp (doExpiration j now) host rpath sec).foldl (fun o e => aset e.c.name e.c.value o) [] := by
  have hx := inv_doExpiration j now h
  unfold filter
  refine ite_elim (fun p : Jar × List (Str × Str) => Inv p.1 ∧ p.1.cookies = _ ∧ p.2 = _) (fun hk => ?_) (fun _ => ?_)
  · -- `if not self._cookies: return`: with no dict key there is no cookie, hence no hit
    have hc : j.cookies = [] := List.eq_nil_iff_forall_not_mem.mpr (fun e he => by
      have := h.keysCover e he
      rw [List.isEmpty_iff.mp hk] at this
      cases this)
    have hd : (doExpiration j now).cookies = [] :=
      List.eq_nil_of_subset_nil (hc ▸ fun e he => ((doExpiration_cookies j now e).mp he).1)
    rw [show hits allowIp (doExpiration j now) host rpath sec = [] from List.eq_nil_of_subset_nil (hd ▸ hits_sub)]
    exact ⟨h, hc.trans hd.symm, rfl⟩
  · obtain ⟨c, hc, hI⟩ := foldl_assign (hits allowIp (doExpiration j now) host rpath sec)
      { doExpiration j now with keys := sadd ([], []) (doExpiration j now).keys } []
      ⟨hx.fields, hx.uniq, hx.cache, hx.heap, fun e he => mem_sadd.mpr (Or.inr (hx.keysCover e he))⟩ hits_sub
    exact hc ▸ ⟨hI, rfl, rfl⟩

theorem inv_filter {allowIp : Bool} {now : Int} {j : Jar} {host rpath : Str} {sec : Bool} (h : Inv j) :
    Inv (filter allowIp now j host rpath sec).1 :=
  (filter_spec allowIp now j host rpath sec h).1

theorem inv_load (allowIp : Bool) (now : Int) (data : List Saved) : Inv (load allowIp now data) := by
  unfold load
  refine inv_doExpiration _ _ (foldl_inv Inv _ data {} (fun j s _ h => ?_) inv_empty)
  dsimp only
  split
  · exact inv_expireCookie (inv_update h)
  · exact inv_update h

theorem inv_step (allowIp : Bool) (w : World) (op : Op) (h : Inv w.jar) : Inv (step allowIp w op).1.jar := by
  cases op with
  | set host rpath cs => exact inv_update h
  | tick dt => exact h
  | query host rpath sec => exact inv_filter h
  | clear => exact inv_empty
  | clearDomain d => exact inv_deleteCookies w.jar _ w.jar.heap h (fun k w _ => h.heap k w)
  | saveLoad => exact inv_load _ _ _

theorem run_eq_foldl (allowIp : Bool) (ops : List Op) :
    ∀ w, run allowIp w ops = ops.foldl (fun w op => (step allowIp w op).1) w := by
  induction ops with
  | nil => intro w; rfl
  | cons op t ih => intro w; exact ih _

theorem inv_run (allowIp : Bool) (ops : List Op) (w : World) (h : Inv w.jar) : Inv (run allowIp w ops).jar :=
  run_eq_foldl allowIp ops w ▸ foldl_inv (fun w => Inv w.jar) _ ops w (fun w op _ => inv_step allowIp w op) h


/-! ## a response cannot reach outside its host's domain -/

theorem isDomainMatch_self (h : Str) : isDomainMatch h h = true := by
  unfold isDomainMatch; simp

theorem isDomainMatch_nil (h : Str) (hh : h ≠ []) : isDomainMatch [] h = false := by
  unfold isDomainMatch
  have : (h == []) = false := by simpa using hh
  simp [this]

/-- `j'` (the later jar) agrees with `j` on every domain that `isDomainMatch`, the code's test, rejects for host `h` -/
def SameOutside (h : Str) (j j' : Jar) : Prop :=
  (∀ e, isDomainMatch e.dom h = false → (e ∈ j'.cookies ↔ e ∈ j.cookies)) ∧
  (∀ d n, isDomainMatch d h = false → ((d, n) ∈ j'.hostOnly ↔ (d, n) ∈ j.hostOnly)) ∧
  (∀ k : Key, isDomainMatch k.1 h = false → aget k j'.expirations = aget k j.expirations)

theorem SameOutside.refl (h : Str) (j : Jar) : SameOutside h j j :=
  ⟨fun _ _ => Iff.rfl, fun _ _ _ => Iff.rfl, fun _ _ => rfl⟩

theorem SameOutside.trans {h : Str} {j₁ j₂ j₃ : Jar} (a : SameOutside h j₁ j₂) (b : SameOutside h j₂ j₃) :
    SameOutside h j₁ j₃ :=
  ⟨fun e he => (b.1 e he).trans (a.1 e he), fun d n hd => (b.2.1 d n hd).trans (a.2.1 d n hd),
    fun k hk => (b.2.2 k hk).trans (a.2.2 k hk)⟩

theorem sameOutside_mark (h n : Str) (j : Jar) :
    SameOutside h j { j with hostOnly := sadd (h, n) j.hostOnly } := by
  refine ⟨fun _ _ => Iff.rfl, fun d n' hd => mem_sadd.trans ⟨fun hm => hm.resolve_left (fun heq => ?_), Or.inr⟩,
    fun _ _ => rfl⟩
  rw [(Prod.mk.inj heq).1, isDomainMatch_self] at hd
  cases hd

theorem sameOutside_expireCookie {h : Str} (j : Jar) (w : Int) {k : Key} (hk : isDomainMatch k.1 h = true) :
    SameOutside h j (expireCookie j w k) := by
  refine ⟨fun _ _ => by rw [expireCookie_cookies], fun _ _ _ => by rw [expireCookie_hostOnly], fun k' hk' => ?_⟩
  rw [aget_expireCookie, if_neg]
  intro hkk
  rw [eq_of_beq hkk, hk'] at hk
  cases hk

theorem sameOutside_storeEntry {h : Str} (j : Jar) {e : Entry} (he : isDomainMatch e.dom h = true) :
    SameOutside h j (storeEntry j e) := by
  refine ⟨fun x hx => ?_, fun _ _ _ => Iff.rfl, fun _ _ => rfl⟩
  have hne : x.key ≠ e.key := fun hk => by
    rw [show x.dom = e.dom from congrArg Prod.fst hk, he] at hx
    cases hx
  exact ⟨fun hm => (mem_putEntry_sub e x _ hm).resolve_left (fun hxe => hne (hxe ▸ rfl)),
    fun hm => mem_putEntry_of_mem e x _ hm hne⟩

/-- one loop iteration of `update_cookies` for a response from `h` leaves everything outside `h`'s domain alone:
a cookie is stored, and its deadline recorded, only under a domain that `h` matches -/
theorem acceptOne_frame (now : Int) (h rpath : Str) (j : Jar) (r : Raw) (hh : h ≠ []) :
    SameOutside h j (acceptOne now (some h) rpath j r) := by
  have matched : ∀ d, rejected (some h) d = false → isDomainMatch d h = true := fun d hr => by
    simpa [rejected, hh] using hr
  refine acceptOne_elim (SameOutside h j) (.refl h j) (fun hst e => ?_)
    (fun j' w k hr g => g.trans (sameOutside_expireCookie j' w (matched _ hr)))
    (fun j' e hr _ _ g => g.trans (sameOutside_storeEntry j' (matched _ hr)))
  cases e
  exact sameOutside_mark h r.name j

theorem acceptAll_frame (now : Int) (h rpath : Str) (hh : h ≠ []) (rs : List Raw) (j : Jar) :
    SameOutside h j (rs.foldl (acceptOne now (some h) rpath) j) :=
  foldl_inv (SameOutside h j) _ rs j (fun j' r _ g => g.trans (acceptOne_frame now h rpath j' r hh)) (.refl h j)


/-! ## no shared cookies when every response has a host -/

def NoShared (j : Jar) : Prop := ∀ e ∈ j.cookies, e.dom ≠ []

theorem SameOutside.noShared {h : Str} {j j' : Jar} (hh : h ≠ []) (g : SameOutside h j j') (hj : NoShared j) :
    NoShared j' :=
  fun e he hd => hj e ((g.1 e (hd ▸ isDomainMatch_nil h hh)).mp he) hd

theorem noShared_doExpiration (j : Jar) (now : Int) (hj : NoShared j) : NoShared (doExpiration j now) :=
  fun e he => hj e ((doExpiration_cookies j now e).mp he).1

theorem noShared_update {allowIp : Bool} {now : Int} {h rpath : Str} {j : Jar} {rs : List Raw} (hh : h ≠ [])
    (hj : NoShared j) : NoShared (update allowIp now (some h) rpath j rs) := by
  fun_cases update allowIp now (some h) rpath j rs
  · exact hj
  · exact noShared_doExpiration _ _ ((acceptAll_frame now h rpath hh rs j).noShared hh hj)

theorem noShared_filter {allowIp : Bool} {now : Int} {j : Jar} {host rpath : Str} {sec : Bool} (hI : Inv j)
    (hj : NoShared j) : NoShared (filter allowIp now j host rpath sec).1 :=
  fun e he => noShared_doExpiration j now hj e ((filter_spec allowIp now j host rpath sec hI).2.1 ▸ he)

theorem noShared_load (allowIp : Bool) (now : Int) (data : List Saved) (hd : ∀ s ∈ data, s.dom ≠ []) :
    NoShared (load allowIp now data) := by
  unfold load
  refine noShared_doExpiration _ _ (foldl_inv NoShared _ data {} (fun j s hs h => ?_) (fun e he => nomatch he))
  have he : s.dom.isEmpty = false := by simpa using hd s hs
  have hne : s.dom.map lowerCp ≠ [] := by simpa using hd s hs
  simp only [he, Bool.false_eq_true, if_false]
  split
  · exact fun e hx => noShared_update hne h e (expireCookie_cookies .. ▸ hx)
  · exact noShared_update hne h

theorem noShared_step (allowIp : Bool) (w : World) (op : Op) (hop : Hostful op) (hI : Inv w.jar)
    (h : NoShared w.jar) : NoShared (step allowIp w op).1.jar := by
  cases op with
  | set host rpath cs =>
    cases host with
    | none => exact hop.elim
    | some hst => exact noShared_update hop h
  | tick dt => exact h
  | query host rpath sec => exact noShared_filter hI h
  | clear => exact fun e he => nomatch he
  | clearDomain d => exact fun e he => h e ((deleteCookies_cookies _ _ e).mp he).1
  | saveLoad =>
    refine noShared_load _ _ _ (fun s hs => ?_)
    simp only [save, List.mem_flatMap, List.mem_map, atKey, List.mem_filter] at hs
    obtain ⟨_, _, e, ⟨he, _⟩, rfl⟩ := hs
    exact h e he

theorem noShared_run (allowIp : Bool) (ops : List Op) (w : World) (hops : ∀ op ∈ ops, Hostful op)
    (hI : Inv w.jar) (h : NoShared w.jar) : NoShared (run allowIp w ops).jar :=
  run_eq_foldl allowIp ops w ▸ (foldl_inv (fun w => Inv w.jar ∧ NoShared w.jar) _ ops w
    (fun w op ho hw => ⟨inv_step allowIp w op hw.1, noShared_step allowIp w op (hops op ho) hw.1 hw.2⟩) ⟨hI, h⟩).2


/-! ## selection = RFC 6265 §5.4 on the recorded attributes -/

theorem mem_product {ds ps : List Str} {d p : Str} : (d, p) ∈ product ds ps ↔ d ∈ ds ∧ p ∈ ps := by
  simp [product, List.mem_flatMap]

theorem mem_hits (allowIp : Bool) (j : Jar) (host rpath : Str) (sec : Bool) (e : Entry) (hns : NoShared j) :
    e ∈ hits allowIp j host rpath sec ↔
      e ∈ j.cookies ∧ ¬(isIp host = true ∧ allowIp = false) ∧
      e.dom ∈ (if isIp host then [host] else domainCands host) ∧ e.pkey ∈ pathCands rpath ∧
      passes j host rpath.length sec e = true := by
  have shared : atKey j [] [] = [] := List.filter_eq_nil_iff.mpr (fun x hx => by simp [hns x hx])
  unfold hits
  rw [shared]
  refine ite_elim (fun l => e ∈ l ↔ _) (fun hb => ?_) (fun hb => ?_)
  · have hb' : isIp host = true ∧ allowIp = false := by simpa using hb
    exact ⟨fun h => (nomatch h), fun h => absurd hb' h.2.1⟩
  · have hb' : ¬(isIp host = true ∧ allowIp = false) := by simpa using hb
    simp only [List.nil_append, List.mem_flatMap, List.mem_filter, atKey, Bool.and_eq_true, beq_iff_eq, Prod.exists,
      mem_product]
    exact ⟨fun ⟨d, p, hdp, ⟨he, hd, hp⟩, hpass⟩ => ⟨he, hb', hd ▸ hdp.1, hp ▸ hdp.2, hpass⟩,
      fun ⟨he, _, hd, hp, hpass⟩ => ⟨_, _, ⟨hd, hp⟩, ⟨he, rfl, rfl⟩, hpass⟩⟩

theorem mem_domains (host dom : Str) :
    dom ∈ (if isIp host then [host] else domainCands host) ↔ Ref.domainMatch host dom = true := by
  unfold Ref.domainMatch
  cases isIp host
  · simp only [Bool.false_eq_true, if_false, mem_domainCands, Bool.not_false, Bool.true_and, Bool.or_eq_true,
      beq_iff_eq, List.isSuffixOf_iff_suffix]
    exact or_congr_left eq_comm
  · simp only [if_true, List.mem_singleton, Bool.not_true, Bool.false_and, Bool.or_false, beq_iff_eq]
    exact eq_comm

theorem hostOK_iff (host dom : Str) (ho : Bool) :
    (dom ∈ (if isIp host then [host] else domainCands host) ∧ (!(ho && dom != host)) = true) ↔
      (if ho then host == dom else Ref.domainMatch host dom) = true := by
  rw [mem_domains]
  cases ho
  · simp
  · simp only [Bool.true_and, Bool.not_eq_true', bne_eq_false_iff_eq, if_true, beq_iff_eq]
    exact ⟨fun h => h.2.symm, fun h => ⟨by simp [Ref.domainMatch, h], h.symm⟩⟩

/-- the Secure test as `filter_cookies` spells it, and below as RFC 6265 §5.4 does -/
theorem secure_code (s sec : Bool) : (!(!sec && s)) = true ↔ (s = true → sec = true) := by
  cases s <;> cases sec <;> simp

theorem secure_rfc (s sec : Bool) : (!s || sec) = true ↔ (s = true → sec = true) := by
  cases s <;> cases sec <;> simp

/-- the scope test an entry must pass, in RFC 6265 terms but with the *stripped-key* path rule of the code -/
theorem mem_hits_rfc (allowIp : Bool) (j : Jar) (host rpath : Str) (sec : Bool) (e : Entry)
    (hI : Inv j) (hns : NoShared j) (he : e ∈ j.cookies) :
    e ∈ hits allowIp j host rpath sec ↔
      ¬(isIp host = true ∧ allowIp = false) ∧
      (if j.hostOnly.contains (e.c.domain, e.c.name) then host == e.c.domain else Ref.domainMatch host e.c.domain) = true ∧
      (rstripSlash e.c.path ∈ pathCands rpath ∧ ¬ e.c.path.length > rpath.length) ∧
      (e.c.secure = true → sec = true) := by
  obtain ⟨hf1, hf2⟩ := hI.fields e he
  rw [mem_hits allowIp j host rpath sec e hns, ← hf1, hf2, ← hostOK_iff]
  simp only [passes, Bool.and_eq_true, secure_code _ _, he, true_and, Bool.not_eq_true', decide_eq_false_iff_not]
  exact ⟨fun ⟨hip, hd, hp, ⟨hho, hlen⟩, hs⟩ => ⟨hip, ⟨hd, hho⟩, ⟨hp, hlen⟩, hs⟩,
    fun ⟨hip, ⟨hd, hho⟩, ⟨hp, hlen⟩, hs⟩ => ⟨hip, hd, hp, ⟨hho, hlen⟩, hs⟩⟩

theorem filter_out_spec (allowIp : Bool) (now : Int) (j : Jar) (host rpath : Str) (sec : Bool) (hI : Inv j) :
    (∀ n v, aget n (filter allowIp now j host rpath sec).2 = some v →
      ∃ e ∈ hits allowIp (doExpiration j now) host rpath sec, e.c.name = n ∧ e.c.value = v) ∧
    (∀ e ∈ hits allowIp (doExpiration j now) host rpath sec,
      (aget e.c.name (filter allowIp now j host rpath sec).2).isSome) := by
  rw [(filter_spec allowIp now j host rpath sec hI).2.2]
  exact ⟨fun n v hv => (aget_foldl_aset _ _ _ [] n v hv).resolve_left (fun h => nomatch h),
    aget_foldl_aset_isSome _ _ _ []⟩

theorem hit_iff_selected (allowIp : Bool) (now : Int) (j : Jar) (host rpath : Str) (sec : Bool) (e : Entry)
    (hI : Inv j) (hns : NoShared j) (he : e ∈ j.cookies) (hT : Tame e.c.path)
    (hNE : ∀ w, aget e.key j.expirations = some w → now < w) :
    e ∈ hits allowIp j host rpath sec ↔ absE j e ∈ Ref.select allowIp now (abs j) host rpath sec := by
  have hne : Ref.expired now (absE j e) = false := by
    unfold Ref.expired absE
    split
    · next w hw => exact decide_eq_false (Int.not_le.mpr (hNE w hw))
    · rfl
  have hmem : absE j e ∈ abs j := List.mem_map.mpr ⟨e, he, rfl⟩
  rw [mem_hits_rfc allowIp j host rpath sec e hI hns he, pathOK_iff _ _ hT]
  unfold Ref.select
  by_cases hb : (!allowIp && isIp host) = true
  · have : isIp host = true ∧ allowIp = false := by
      simp only [Bool.and_eq_true, Bool.not_eq_true'] at hb; exact ⟨hb.2, hb.1⟩
    simp [this]
  · have hb' : ¬(isIp host = true ∧ allowIp = false) := fun h => hb (by simp [h.1, h.2])
    simp only [hb, Bool.false_eq_true, if_false, List.mem_filter, hmem, true_and, hb', not_false_eq_true,
      Ref.attachable, hne, Bool.not_false, Bool.and_true, Bool.and_eq_true, secure_rfc, and_assoc]
    rfl

theorem filter_refines (allowIp : Bool) (now : Int) (j : Jar) (host rpath : Str) (sec : Bool)
    (hI : Inv j) (hns : NoShared j) (hT : ∀ e ∈ (doExpiration j now).cookies, Tame e.c.path) :
    (∀ n v, aget n (filter allowIp now j host rpath sec).2 = some v →
      ∃ c ∈ Ref.select allowIp now (abs (doExpiration j now)) host rpath sec, c.name = n ∧ c.value = v) ∧
    (∀ c ∈ Ref.select allowIp now (abs (doExpiration j now)) host rpath sec,
      (aget c.name (filter allowIp now j host rpath sec).2).isSome = true) := by
  obtain ⟨hs, hc⟩ := filter_out_spec allowIp now j host rpath sec hI
  have hsel : ∀ e ∈ (doExpiration j now).cookies,
      (e ∈ hits allowIp (doExpiration j now) host rpath sec ↔
        absE (doExpiration j now) e ∈ Ref.select allowIp now (abs (doExpiration j now)) host rpath sec) :=
    fun e he => hit_iff_selected allowIp now _ host rpath sec e (inv_doExpiration j now hI)
      (noShared_doExpiration j now hns) he (hT e he) (doExpiration_noExpired j now hI e.key)
  constructor
  · intro n v hv
    obtain ⟨e, he, hn, hval⟩ := hs n v hv
    exact ⟨absE _ e, (hsel e (hits_sub e he)).mp he, hn, hval⟩
  · intro c hcsel
    have hmem : c ∈ abs (doExpiration j now) := by
      unfold Ref.select at hcsel
      split at hcsel
      · cases hcsel
      · exact (List.mem_filter.mp hcsel).1
    obtain ⟨e, he, rfl⟩ := List.mem_map.mp hmem
    exact hc e ((hsel e he).mpr hcsel)

end Aio.C16
