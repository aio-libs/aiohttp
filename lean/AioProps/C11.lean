import AioModel.C11
import AioModel.C11Conc
import AioProps.C11Lemmas
import AioProps.C11ConcLemmas
import AioProps.C11Codec
import AioProps.C12
/-!
# C11 — property theorems (writer model `AioModel/C11.lean` → reader model `AioModel/C12.lean`)

What the writer emits, the reader of C12 reads back: header fields and masking, then whole sequences of sends (plain; with
permessage-deflate for an abstract codec); nothing but a close frame is accepted after a close; concurrent senders reach
the wire in the order in which they were compressed.
-/
namespace Aio.C11
open Aio Aio.C12

variable {Z : Inflater} {D : Deflater}

/-- the header fields a reference parser recovers from the first bytes of a frame:
`(first byte, mask bit, payload length, remaining bytes)` (RFC 6455 §5.2) -/
def parseHeader (bs : Bytes) : Option (Nat × Nat × Nat × Bytes) :=
  match bs with
  | b0 :: b1 :: r =>
    match Spec.extLen (b1.toNat % 128) r with
    | some (n, rest) => some (b0.toNat, b1.toNat / 128, n, rest)
    | none => none
  | _ => none

/-- Frame header round trip for **every** payload length below 2^63 (125/126/65535/65536 are
points on this line): the header the writer builds for a first byte, mask bit and length parses
back to exactly these, leaving the following bytes untouched. -/
theorem header_roundtrip (fb mb n : Nat) (rest : Bytes) (hfb : fb < 256) (hmb : mb = 0 ∨ mb = 0x80)
    (hn : n < 2 ^ 63) :
    parseHeader (frameHeader fb mb n ++ rest) = some (fb, mb / 128, n, rest) := by
  rw [frameHeader_eq]
  obtain ⟨g1, g2, g3⟩ := secondByte_fields (lenCode n) (lenCode_lt n) mb (by rcases hmb with h | h <;> simp [h])
  simp only [parseHeader, List.cons_append, List.nil_append, toUInt8_toNat_lt hfb, toUInt8_toNat_lt g1, g2, g3]
  have : Spec.extLen (lenCode n) (extBytes n ++ rest) = some (n, rest) := by
    unfold Spec.extLen
    rcases extBytes_cases n hn with ⟨h1, hc, he⟩ | ⟨hc, a, b, he, hv⟩ | ⟨hc, hlen, hv, _⟩
    · rw [hc, he, if_neg (by omega), if_neg (by omega)]; rfl
    · rw [hc, he, if_pos rfl, ← hv]; rfl
    · rw [hc, if_neg (by decide), if_pos rfl, List.length_append, hlen, if_neg (by omega),
        List.take_left' hlen, List.drop_left' hlen, hv]
  rw [this]

/-- Masking is an involution: unmasking with the same key returns the payload, for every key
and every payload. -/
theorem mask_involutive (key d : Bytes) : maskBytes key (maskBytes key d) = d :=
  maskBytes_involutive key d

/-- The writer's output for a list of uncompressed sends is the concatenation of the frames of
the sends it accepts (`accepted`): after a CLOSE frame has latched `_closing`, data frames are
refused with a reset error and write nothing, control frames still go out. -/
theorem sendAll_plain_out (cfg : WCfg) (hcfg : cfg.compress = 0) : ∀ (sends : List Send) (w : W D),
    w.ws.transportClosing = false →
    (∀ s ∈ sends, s.compress = 0 ∧ s.payload.length < 2 ^ 63 ∧
      (s.opcode = 1 ∨ s.opcode = 2 ∨ s.opcode = 8 ∨ s.opcode = 9 ∨ s.opcode = 10)) →
    (sendAll cfg w sends).ws.out = w.ws.out ++ plainWire cfg.useMask (accepted w.ws.closing sends) := by
  intro sends
  induction sends with
  | nil => intro w _ _; simp [sendAll, plainWire, accepted]
  | cons s ss ih =>
    intro w ht hall
    obtain ⟨hs0, hsn, hop⟩ := hall s (by simp)
    have hrest := fun x hx => hall x (List.mem_cons_of_mem s hx)
    by_cases hno : w.ws.closing = true ∧ s.opcode &&& 8 = 0
    · -- refused: ClientConnectionResetError, nothing written, state unchanged
      simp only [sendAll, sendFrame_refused cfg w s hno, accepted, if_pos hno]
      exact ih w ht hrest
    · obtain ⟨h1, h2, h3, _⟩ := sendFrame_plain cfg w s hno ht hop hsn (by unfold route; simp [hs0, hcfg]) rfl
      simp only [sendAll, accepted, if_neg hno, plainWire]
      rw [ih _ h2 hrest, h1, h3, List.append_assoc]

theorem feedAll_of_runK (c : Cfg) {segs : List Bytes} {wire : Bytes} (hsegs : segs.flatten = wire) {k' : K Z}
    (hidle : Idle k') {ms : List Msg} (hm : k'.msgs = ms) (he : runK c {} wire = { k := k', tail := [], exc := none }) :
    (feedAll c ({} : Reader Z) segs).p.k.msgs = ms ∧ (feedAll c ({} : Reader Z) segs).exc = none ∧
    retained (feedAll c ({} : Reader Z) segs) = 0 := by
  have hcore : (feedAll c ({} : Reader Z) segs).core = _ := (segmentation_independent_init c segs).trans (feed_core ..)
  rw [hsegs] at hcore
  replace hcore := hcore.trans he
  have h1 : (feedAll c ({} : Reader Z) segs).p.k = k' := congrArg RK.k hcore
  have h2 : (feedAll c ({} : Reader Z) segs).tail = [] := congrArg RK.tail hcore
  refine ⟨h1 ▸ hm, congrArg RK.exc hcore, ?_⟩
  unfold retained
  rw [h2, h1, hidle.frags, hidle.partialMsg]; rfl

/-- **Codec round trip, uncompressed connection.**  For every list of sends (text, binary, ping,
pong, close; payload empty to 2^63; masked with any 4-byte keys or unmasked) that the writer
emits on a connection without permessage-deflate, and for **every** segmentation of the
emitted bytes, the reader delivers exactly the messages of the sends the writer accepted
(`accepted`: all of them, except data frames attempted after a CLOSE has latched `_closing`,
which are refused with a reset error and write nothing), in order, with identical payloads,
raises no error and keeps no byte.  (Data messages must be shorter than `max_msg_size` if one is
set; text must be valid UTF-8 when `decode_text`; control payloads ≤ 125 bytes; close payloads
well-formed.) -/
theorem codec_roundtrip_plain (cfg : WCfg) (c : Cfg) (hcfg : cfg.compress = 0) (sends : List Send)
    (hall : ∀ s ∈ sends, OkPlain c s ∧ s.compress = 0 ∧ (cfg.useMask = true → s.maskKey.length = 4))
    (segs : List Bytes) (hsegs : segs.flatten = (sendAll (D := D) cfg {} sends).ws.out) :
    (feedAll c ({} : Reader Z) segs).p.k.msgs = (accepted false sends).map toMsg ∧
    (feedAll c ({} : Reader Z) segs).exc = none ∧
    retained (feedAll c ({} : Reader Z) segs) = 0 := by
  have hout := sendAll_plain_out (D := D) cfg hcfg sends {} rfl fun s hs =>
    ⟨(hall s hs).2.1, (hall s hs).1.1, (okPlain_facts (hall s hs).1).1⟩
  obtain ⟨k', hidle, hm, _, he⟩ := runK_plain_all (Z := Z) c cfg.useMask (accepted false sends) {}
    ⟨rfl, rfl, rfl, rfl, Or.inr rfl⟩
    (fun s hs => ⟨(hall s (accepted_subset hs)).1, (hall s (accepted_subset hs)).2.2⟩)
  exact feedAll_of_runK c (hsegs.trans hout) hidle hm he

/-- Corollary: a list of sends with no CLOSE before its last element is
delivered whole (`accepted` drops nothing). -/
theorem codec_roundtrip_plain_all (cfg : WCfg) (c : Cfg) (hcfg : cfg.compress = 0) (sends : List Send)
    (last : Send)
    (hall : ∀ s ∈ sends ++ [last], OkPlain c s ∧ s.compress = 0 ∧ (cfg.useMask = true → s.maskKey.length = 4))
    (hnc : ∀ s ∈ sends, s.opcode ≠ 8)
    (segs : List Bytes) (hsegs : segs.flatten = (sendAll (D := D) cfg {} (sends ++ [last])).ws.out) :
    (feedAll c ({} : Reader Z) segs).p.k.msgs = (sends ++ [last]).map toMsg := by
  have h := (codec_roundtrip_plain (Z := Z) (D := D) cfg c hcfg (sends ++ [last]) hall segs hsegs).1
  rw [h, accepted_append sends [last] hnc]; rfl

example : (feedAll (Z := toyInflater) ⟨0, false, true, 100⟩ {}
      [(sendAll (D := ⟨Unit, fun _ => (), fun _ m _ => ((), m)⟩) ⟨true, 0, false, 100⟩ {}
        [⟨1, [0x68, 0x69], 0, [1, 2, 3, 4]⟩, ⟨9, [], 0, [9, 9, 9, 9]⟩]).ws.out]).p.k.msgs
    = [.text [0x68, 0x69], .ping []] := by decide +kernel

/-- **Codec round trip, permessage-deflate connection** — for every deflate/inflate pair that
satisfies the `Codec` law (zlib is assumed to; `Codec.toy` shows the law is satisfiable), every
negotiated window size, with or without context takeover (`notakeover` selects the flush mode),
masked or not: any list of sends without per-message `compress=` override (control frames go
out plain, data frames through the shared compressor) is delivered by a reader with compression
negotiated as exactly these messages, in order, payloads identical, for **every** segmentation of
the emitted bytes; no error, nothing retained.  Size hypotheses (`OkDefl`): the compressed bytes
must be shorter than `max_msg_size` and the message at most `max_msg_size`.

`_partial`: the property text also covers the per-message `compress=` override; with it the
statement is FALSE on the unchanged code when context takeover is in use (the override
compresses with a fresh context while the peer's single inflate context also consumes that
message, so `Sync` is lost: the next shared-context message is delivered corrupted) — finding
`C11/roundtrip/override-compress-desyncs-shared-context`, reproduced on the real code by the
harness.  Full statement = this one without the `s.compress = 0` conjunct of `OkComp`. -/
theorem codec_roundtrip_deflate_partial (C : Codec) (cfg : WCfg) (c : Cfg) (hcfg : cfg.compress ≠ 0)
    (hc : c.compress = true) (sends : List Send)
    (hops : ∀ s ∈ sends, s.compress = 0 ∧
      (s.opcode = 1 ∨ s.opcode = 2 ∨ s.opcode = 8 ∨ s.opcode = 9 ∨ s.opcode = 10))
    (hall : OkComp C c cfg (C.D.init cfg.compress) (accepted false sends))
    (segs : List Bytes) (hsegs : segs.flatten = (sendAll (D := C.D) cfg {} sends).ws.out) :
    (feedAll c ({} : Reader C.Z) segs).p.k.msgs = (accepted false sends).map toMsg ∧
    (feedAll c ({} : Reader C.Z) segs).exc = none ∧
    retained (feedAll c ({} : Reader C.Z) segs) = 0 := by
  have hout := sendAll_comp_out C c cfg hcfg sends {} (C.D.init cfg.compress) rfl rfl hops hall
  obtain ⟨k', hidle, hm, he⟩ := runK_comp_all C c hc cfg (accepted false sends) (C.D.init cfg.compress) {}
    ⟨rfl, rfl, rfl, rfl, Or.inr rfl⟩ (C.init_sync _) hall
  exact feedAll_of_runK c (hsegs.trans hout) hidle hm he

/-- After a CLOSE frame has been sent through `send_frame` (and the code latches `_closing`
there), every later data frame is refused: `accepted` keeps nothing with `opcode & 8 = 0` behind
the first CLOSE — so on the wire, and at the reader, no data message follows the close message. -/
theorem no_data_after_close (hl : Gen.C11.closeLatchesInSendFrame = true) :
    ∀ (sends : List Send) (pre post : List Send) (s : Send),
    accepted true sends = pre ++ s :: post → s.opcode &&& 8 ≠ 0 := by
  intro sends
  generalize hcl : true = cl
  fun_induction accepted cl sends with
  | case1 => intro pre post s h; cases pre <;> cases h
  | case2 cl a ss hc ih => exact ih hcl
  | case3 cl a ss hc ih =>
    subst hcl
    intro pre post s h
    cases pre with
    | nil => cases h; exact fun h0 => hc ⟨rfl, h0⟩
    | cons p ps => exact ih rfl ps post s (List.cons.inj h).2

/-- …and a CLOSE frame accepted from a non-closing writer switches to that regime. -/
theorem accepted_close (hl : Gen.C11.closeLatchesInSendFrame = true) (s : Send) (hs : s.opcode = 8)
    (ss : List Send) : accepted false (s :: ss) = s :: accepted true ss := by
  simp [accepted, hs, hl]

-- the hypotheses are satisfiable: a text message and a ping on a compressed, masked connection
example : OkComp Codec.toy ⟨0, true, true, 100⟩ ⟨true, 15, false, 100⟩ ()
    [⟨1, [0x68, 0x69], 0, [1, 2, 3, 4]⟩, ⟨9, [], 0, [5, 6, 7, 8]⟩] := by
  refine ⟨rfl, fun _ => rfl, ?_⟩
  simp only [show ¬ ((1:Nat) ≥ 8) by decide, if_false]
  refine ⟨⟨Or.inl rfl, by decide, Or.inl rfl, fun _ _ => by decide⟩, rfl, fun _ => rfl, ?_⟩
  simp only [show ((9:Nat) ≥ 8) by decide, if_true]
  exact ⟨⟨by decide, Or.inr (Or.inl ⟨Or.inl rfl, by decide⟩)⟩, trivial⟩

-- data after CLOSE is refused, control frames still pass (with the latch in `send_frame`)
example : (feedAll (Z := toyInflater) ⟨0, false, true, 100⟩ {}
      [(sendAll (D := ⟨Unit, fun _ => (), fun _ m _ => ((), m)⟩) ⟨false, 0, false, 100⟩ {}
        [⟨1, [0x61], 0, []⟩, ⟨8, [3, 232], 0, []⟩, ⟨1, [0x62], 0, []⟩, ⟨9, [], 0, []⟩]).ws.out]).p.k.msgs
    = (if Gen.C11.closeLatchesInSendFrame then [.text [0x61], .close 1000 [], .ping []]
       else [.text [0x61], .close 1000 [], .text [0x62], .ping []]) := by decide +kernel

-- payloads that look like the deflate sync-flush tail are ordinary payloads on the plain route: nothing is stripped
example : (feedAll (Z := toyInflater) ⟨0, false, true, 100⟩ {}
      [(sendAll (D := ⟨Unit, fun _ => (), fun _ m _ => ((), m)⟩) ⟨true, 0, false, 100⟩ {}
        [⟨2, [0, 0, 255, 255], 0, [7, 7, 7, 7]⟩, ⟨9, [65, 0, 0, 255, 255], 0, [1, 2, 3, 4]⟩]).ws.out]).p.k.msgs
    = [.binary [0, 0, 255, 255], .ping [65, 0, 0, 255, 255]] := by decide +kernel

/-! ## concurrent senders (model `AioModel/C11Conc.lean`) -/

/-- **wire order = compress order, on every schedule.**  After any sequence of labels — tasks
calling `send_frame` on any route, senders cancelled at any point, the executor finishing at any
time, event-loop iterations — the order in which the shared compressor was applied to messages
is the order in which their frames were written to the transport, followed by at most the one
message whose compression is still running in the executor; and that job's task holds the
lock.  This is what keeps the history-dependent deflate context of writer and reader in step. -/
theorem wire_order_eq_compress_order (ls : List Conc.Label) :
    (Conc.run {} ls).compLog = (Conc.run {} ls).wire ++ (Conc.run {} ls).inExec.toList ∧
    ((Conc.run {} ls).inExec.isSome → (Conc.run {} ls).locked = true) := by
  have h := Conc.run_inv ls {} Conc.inv_init
  exact ⟨h.order, h.execLocked⟩

/-- …so whenever no compression is in flight the two orders are equal. -/
theorem wire_order_eq_compress_order_idle (ls : List Conc.Label) (h : (Conc.run {} ls).inExec = none) :
    (Conc.run {} ls).compLog = (Conc.run {} ls).wire := by
  have := (wire_order_eq_compress_order ls).1
  rw [h] at this; simpa using this

/-- The lock is never handed to two tasks: at most the head of the waiter queue has been woken,
and nobody is woken while the lock is held (no barging past a woken waiter). -/
theorem lock_handover_unique (ls : List Conc.Label) :
    ((Conc.run {} ls).locked = true → ∀ w ∈ (Conc.run {} ls).waiters, Conc.wok w = false) ∧
    (∀ w ∈ (Conc.run {} ls).waiters.tail, Conc.wok w = false) := by
  have h := Conc.run_inv ls {} Conc.inv_init
  exact ⟨h.noWoken, h.wokenHead⟩

-- a schedule with a cancelled waiter and an executor job: frames 3 (plain), 1, then 4
example : (Conc.run {} [.spawn 1 .exec, .spawn 2 .sync, .spawn 3 .plain, .tick, .cancel 2, .spawn 4 .sync,
      .execDone, .tick, .tick, .tick]).wireAll = [3, 1, 4] := by decide +kernel

end Aio.C11
