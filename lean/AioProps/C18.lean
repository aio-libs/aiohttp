import AioProps.C18Lemmas
/-!
# C18 — timeouts and cancellation are bounded and leave no residue (property theorems)

All theorems are about the model `AioModel/C18.lean`.  "For every timeline" means: for every
list of time-stamped groups of external events (peer actions, starts of the co-requests,
`Task.cancel()` of the caller at any instant, in any order, with any time stamps) — i.e.
every stall point, every cancellation point and every interleaving the model can express.
-/
namespace Aio.C18
open Aio

/-! ## the documented rounding -/

/-- `ceil` to a whole second never moves a deadline earlier and moves it by less than one second. -/
theorem ceilSec_bounds (t : Nat) : t ≤ ceilSec t ∧ ceilSec t < t + 1000 ∧ ceilSec t % 1000 = 0 := by
  unfold ceilSec; omega

/-- The deadline of the total timeout (`TimeoutHandle.start`) is `now + total` below the
threshold and the next whole second at or after `now + total` from the threshold on. -/
theorem totalDeadline_spec (thr now d : Nat) :
    (d < thr → totalDeadline thr now d = now + d) ∧
    (d ≥ thr → now + d ≤ totalDeadline thr now d ∧ totalDeadline thr now d < now + d + 1000 ∧ totalDeadline thr now d % 1000 = 0) := by
  unfold totalDeadline
  have := ceilSec_bounds (now + d)
  constructor
  · intro h; simp [Nat.not_le.mpr h]
  · intro h; simp [h]; exact this

/-- The deadline of `ceil_timeout` (connect, sock_connect) is never later than the documented
rule (`totalDeadline`: rounding from the threshold on) and never earlier than `now + delay`;
it differs only at `delay = threshold` exactly, where the code does not round. -/
theorem ctxDeadline_spec (thr now d : Nat) :
    now + d ≤ ctxDeadline thr now d ∧ ctxDeadline thr now d ≤ totalDeadline thr now d ∧
    (d ≠ thr → ctxDeadline thr now d = totalDeadline thr now d) := by
  unfold ctxDeadline totalDeadline
  have hc := (ceilSec_bounds (now + d)).1
  -- above the threshold both round, at the threshold only the total does, below it neither
  by_cases h1 : d > thr
  · rw [if_pos h1, if_pos (Nat.le_of_lt h1)]
    exact ⟨hc, Nat.le_refl _, fun _ => rfl⟩
  · rw [if_neg h1]
    by_cases h2 : d ≥ thr
    · rw [if_pos h2]
      exact ⟨Nat.le_refl _, hc, fun h => absurd (Nat.le_antisymm (Nat.not_lt.1 h1) h2) h⟩
    · rw [if_neg h2]
      exact ⟨Nat.le_refl _, Nat.le_refl _, fun _ => rfl⟩

/-- `ClientTimeout.__post_init__`: the effective total is at least every more specific timeout. -/
theorem effTotal_ge (c : Cfg) (t : Nat) (h : c.effTotal = some t) :
    c.connect.getD 0 ≤ t ∧ c.sockConnect.getD 0 ≤ t ∧ c.sockRead.getD 0 ≤ t ∧ c.total.getD 0 ≤ t := by
  unfold Cfg.effTotal at h
  cases ht : c.total with
  | none => rw [ht] at h; cases h
  | some t0 =>
    rw [ht] at h
    cases h
    exact ⟨Nat.le_trans (Nat.le_max_right _ _) (Nat.le_max_left _ _),
      Nat.le_trans (Nat.le_max_right _ _) (Nat.le_max_right _ _),
      Nat.le_trans (Nat.le_max_left _ _) (Nat.le_max_right _ _),
      Nat.le_trans (Nat.le_max_left t0 _) (Nat.le_max_left _ _)⟩

/-! ## no residue — for every timeline -/

/-- **slot_freed.** Whatever the peer, the co-requests and the caller do, once the request has
ended (normally, by any timeout, or by cancellation at any point) it holds no pool slot. -/
theorem slot_freed (cfg : Cfg) (co : Bool) (c0 : Nat) (tl : List (Nat × List Ev)) :
    (run cfg (init co c0) tl).pc.isDone = true → (run cfg (init co c0) tl).slot = .none :=
  fun hd => ((inv_run cfg tl _ (inv_init co c0)).clean_of_done hd).slot

/-- **connection_closed_not_pooled.** After the request has ended its connection is open only
if the complete response had arrived and the connection was handed back to the pool; in
particular after a timeout or cancellation in the middle of an exchange (`eof = false`) the
connection is closed, not reused. -/
theorem connection_closed_not_pooled (cfg : Cfg) (co : Bool) (c0 : Nat) (tl : List (Nat × List Ev)) :
    (run cfg (init co c0) tl).pc.isDone = true → (run cfg (init co c0) tl).tr = .open →
      (run cfg (init co c0) tl).pooled = true ∧ (run cfg (init co c0) tl).eof = true := by
  intro hd ho
  have h := inv_run cfg tl _ (inv_init co c0)
  rcases h.p6 ho with h1 | h1
  · exact nomatch (h.clean_of_done hd).slot.symm.trans h1
  · exact ⟨h1.1, h1.2.1⟩

/-- **no_orphan_task.** After the request has ended, its body-writer task is not parked any
more (it finished or was cancelled), no per-waiter future of it is left on a DNS lookup and
it is not queued for a pool slot. -/
theorem no_orphan_task (cfg : Cfg) (co : Bool) (c0 : Nat) (tl : List (Nat × List Ev)) :
    (run cfg (init co c0) tl).pc.isDone = true →
      (run cfg (init co c0) tl).wr ≠ .parked ∧ (run cfg (init co c0) tl).dnsWaitR = false ∧
      Who.R ∉ (run cfg (init co c0) tl).poolQ := by
  intro hd
  have h := inv_run cfg tl _ (inv_init co c0)
  have c := h.clean_of_done hd
  exact ⟨fun hw => (nomatch c.slot.symm.trans (h.p3 hw)), c.dns, c.pool⟩

/-- **session_usable.** After the request has ended the pool admits a new request exactly when
the other holder (if any) has released: the ended request never blocks a follow-up. -/
theorem session_usable (cfg : Cfg) (co : Bool) (c0 : Nat) (tl : List (Nat × List Ev)) :
    (run cfg (init co c0) tl).pc.isDone = true →
      slotFree cfg (run cfg (init co c0) tl) = (!cfg.limit1 || !(run cfg (init co c0) tl).holder) := by
  intro hd; unfold slotFree; rw [slot_freed cfg co c0 tl hd]; simp

/-- Mid-exchange the invariant is just as strict: a slot is held only while the task is in the
phase that owns it, so a slot can never outlive its phase. -/
theorem slot_only_in_its_phase (cfg : Cfg) (co : Bool) (c0 : Nat) (tl : List (Nat × List Ev)) :
    ((run cfg (init co c0) tl).slot = .placeholder →
        (run cfg (init co c0) tl).pc = .dnsOwner ∨ (run cfg (init co c0) tl).pc = .dnsWaiter ∨
        (run cfg (init co c0) tl).pc = .connecting) ∧
    ((run cfg (init co c0) tl).slot = .proto →
        ((run cfg (init co c0) tl).pc = .headers ∨ (run cfg (init co c0) tl).pc = .think ∨
         (run cfg (init co c0) tl).pc = .body) ∧ (run cfg (init co c0) tl).respReleased = false) := by
  have h := inv_run cfg tl _ (inv_init co c0)
  exact ⟨h.p1, h.p2⟩


/-! ## bounds

Full statements (kept here at full strength; proved below in the `_partial` form):

  total_bound : ∀ cfg co tl t0 T, R started at t0 → cfg.effTotal = some T →
     let s := run cfg (init co c0) tl;  s.now ≥ totalDeadline t0 T →
     s.pc.isDone ∨ s.pc = .think          -- (think: the caller itself sleeps outside aiohttp)
  connect_bound / sock_connect_bound / sock_read_bound : likewise with `ctxDeadline t0 c`
     (pool wait, DNS, connect), `ctxDeadline a_i sc` per connect attempt `i`, and
     `last activity + sock_read` while the transport is not read-paused.

What the `_partial` theorems prove, for EVERY state of the model: when the respective timer
fires and the task is resumed, the request ends at that very instant with the respective
timeout error, wherever it was parked.  What is missing for the full statements is the
bookkeeping lemma that `advance`/`fireDue` never let the clock pass an armed deadline
(fuel-indexed loops; the timer is armed with exactly the deadline given by
`totalDeadline`/`ctxDeadline`/`now + sock_read`, see `startR`, `attemptConn`, `reschedRead`).
That part is covered by the correspondence run (time of the raise is compared in ms). -/

theorem finish_pc (s : St) (o : Outcome) : (finish s o).pc = .done o s.now := rfl

theorem attemptConn_keeps (cfg : Cfg) (s : St) :
    (attemptConn cfg s).totalT = s.totalT ∧ (attemptConn cfg s).connT = s.connT := by
  obtain ⟨t, q, h⟩ := attemptConn_eq cfg s
  rw [h]; exact ⟨rfl, rfl⟩

theorem createConn_keeps (cfg : Cfg) (s : St) :
    (createConn cfg s).totalT = s.totalT ∧ (createConn cfg s).connT = s.connT := by
  fun_cases createConn cfg s
  · exact attemptConn_keeps cfg _
  · exact attemptConn_keeps cfg _
  · exact ⟨rfl, rfl⟩
  · exact ⟨rfl, rfl⟩

theorem startR_keeps (cfg : Cfg) (s : St) (hp : s.pc = .idle) :
    (startR cfg s).totalT = (armStart cfg s).totalT ∧ (startR cfg s).connT = (armStart cfg s).connT := by
  fun_cases startR cfg s
  · contradiction
  · exact ⟨rfl, rfl⟩
  · exact createConn_keeps cfg _

/-- **total_bound (partial: the armed deadline).** Starting the request arms the total timer
with exactly the documented deadline `totalDeadline now total'` (where `total'` is the effective
total of `ClientTimeout`), whatever phase the request stalls in first (pool wait, DNS, connect). -/
theorem total_bound_partial (cfg : Cfg) (s : St) (T : Nat) (hp : s.pc = .idle)
    (hT : cfg.effTotal = some T) (h0 : T ≠ 0) :
    (startR cfg s).totalT = some (totalDeadline cfg.thr s.now T, s.seq) := by
  rw [(startR_keeps cfg s hp).1]
  unfold armStart
  simp only [hT, h0, ↓reduceIte]
  repeat (first | rfl | split)

/-- **connect_bound (partial: the armed deadline).** `BaseConnector.connect` arms its timeout with
`ctxDeadline now connect` before the pool wait, so pool wait + DNS + connect share one deadline. -/
theorem connect_bound_partial (cfg : Cfg) (s : St) (c : Nat) (hp : s.pc = .idle)
    (hc : cfg.connect = some c) (h0 : c ≠ 0) :
    ∃ q, (startR cfg s).connT = some (ctxDeadline cfg.thr s.now c, q) := by
  rw [(startR_keeps cfg s hp).2]
  unfold armStart
  simp only [hc, h0, ↓reduceIte]
  split
  · split <;> exact ⟨_, rfl⟩
  · exact ⟨_, rfl⟩

/-- **sock_connect_bound (partial: the armed deadline).** Every connect attempt arms its own
`ctxDeadline now sock_connect`; the request-level bound is therefore `naddr` times the
configured value (see the finding reported with this property). -/
theorem sock_connect_bound_partial (cfg : Cfg) (s : St) (c : Nat) (hc : cfg.sockConnect = some c) (h0 : c ≠ 0) :
    (attemptConn cfg s).sockT = some (ctxDeadline cfg.thr s.now c, s.seq) ∧ (attemptConn cfg s).pc = .connecting := by
  unfold attemptConn; simp [hc, h0]

/-- **sock_read_bound (partial: the armed deadline and its exception).** Every reschedule arms the
read timer `sock_read` after now, without rounding; while the consumer has paused reading
(`pauseCheck` fired) no read timer is armed at all. -/
theorem sock_read_bound_partial (cfg : Cfg) (s : St) (d : Nat) (hd : cfg.sockRead = some d) (h0 : d ≠ 0) :
    (reschedRead cfg s).readT = some (s.now + d, s.seq) ∧
    (s.buffered > Gen.C18.highWaterFactor * cfg.bufsize → s.rpaused = false →
        (pauseCheck cfg s).readT = none ∧ (pauseCheck cfg s).rpaused = true) := by
  constructor
  · unfold reschedRead; simp [hd, h0]
  · intro h1 h2; unfold pauseCheck; simp [h1, h2, dropRead]

/-- firing the total timer marks the context cancelled and requests cancellation of the task
that is inside it, at any await inside aiohttp -/
theorem fire_total (cfg : Cfg) (s : St) (hin : inTimerCtx s = true) (hc : s.tcCancelled = false) :
    (fireTimer cfg s .total).tcCancelled = true ∧ (fireTimer cfg s .total).mustCancel = true ∧
    (fireTimer cfg s .total).pc = s.pc ∧ (fireTimer cfg s .total).now = s.now := by
  -- inside a `with timer` block the task is running, so `Task.cancel()` takes effect
  have hd : (s.pc.isDone || decide (s.pc = .idle)) = false := by
    cases hp : s.pc <;> simp [inTimerCtx, hp] at hin <;> rfl
  have e : fireTimer cfg s .total = { taskCancel { s with totalT := none } with tcCancelled := true } := by
    show (if _ then _ else _) = _
    have hin' : inTimerCtx { s with totalT := none } = true := hin
    rw [if_neg (by simp [hc]), if_pos hin']
  rw [e]
  unfold taskCancel
  rw [if_neg (by simp [hd])]
  exact ⟨rfl, rfl, rfl, rfl⟩

/-- a requested cancellation is delivered at the await where the task is parked -/
theorem resume_delivers_cancel (cfg : Cfg) (s : St) (h1 : s.pc.isDone = false) (h2 : s.pc ≠ .idle)
    (hm : s.mustCancel = true) :
    resumeR cfg s = throwAt cfg { s with mustCancel := false, wake := none } .cancelled := by
  unfold resumeR; simp [h1, h2, hm]

/-- kernel-checked runs: `total = 7.5 s` from `t0 = 3 ms` ends at 8.000 s in every stall phase
(pool, DNS, connect, send, mid-status-line, mid-body), leaving nothing behind -/
example :
    let chk := fun (cfg : Cfg) (tl : List (Nat × List Ev)) =>
      let s := observe cfg (run cfg (init false) tl)
      decide (s.pc = .done .timeout 8000) && decide (s.slot = .none) && decide (s.tr ≠ .open) && decide (s.wr ≠ .parked)
    chk { total := some 7500, limit1 := true } [(0, [.startH]), (3, [.startR])] = true ∧
    chk { total := some 7500, useDns := true } [(3, [.startR])] = true ∧
    chk { total := some 7500 } [(3, [.startR])] = true ∧
    chk { total := some 7500, wstall := true } [(3, [.startR]), (10, [.connDone 0])] = true ∧
    chk { total := some 7500 } [(3, [.startR]), (10, [.connDone 0]), (20, [.bytes ⟨9, false, 0, false, false, false⟩])] = true ∧
    chk { total := some 7500 } [(3, [.startR]), (10, [.connDone 0]), (20, [.bytes ⟨40, true, 3, false, false, false⟩])] = true := by
  decide +kernel

/-- kernel-checked runs for the three seeded defects' scenarios (the universally quantified
statements are `no_orphan_task`, `slot_freed`, `connection_closed_not_pooled` above — `Ev.cancel`
and `Ev.peerEof` are ordinary timeline events, `closeDelim` an ordinary configuration):
(1) upload stalled in `drain()` (writer parked), caller cancelled while awaiting headers: the
    writer is cancelled, nothing is left;
(2) close-delimited body, only `total` configured, peer stalls mid-body with the socket open:
    `TimeoutError` at the deadline, connection closed, slot freed;
(3) close-delimited body completed by the peer's close: ok, connection closed (never pooled). -/
example :
    let s1 := observe { wstall := true } (run { wstall := true } (init false)
      [(3, [.startR]), (13, [.connDone 0]), (777, [.cancel])])
    let c2 : Cfg := { total := some 1500, closeDelim := true }
    let s2 := observe c2 (run c2 (init false)
      [(1003, [.startR]), (1093, [.connDone 0]), (1183, [.bytes ⟨40, true, 10, false, false, false⟩])])
    let c3 : Cfg := { closeDelim := true }
    let s3 := observe c3 (run c3 (init false)
      [(3, [.startR]), (13, [.connDone 0]), (20, [.bytes ⟨40, true, 10, false, false, false⟩]), (30, [.peerEof])])
    (s1.pc = .done .cancelled 777 ∧ s1.wr = .cancelled ∧ s1.slot = .none ∧ s1.tr = .closed) ∧
    (s2.pc = .done .timeout 2503 ∧ s2.slot = .none ∧ s2.tr = .closed ∧ s2.pooled = false) ∧
    (s3.pc = .done .ok 30 ∧ s3.slot = .none ∧ s3.tr = .closed ∧ s3.pooled = false) := by
  decide +kernel

/-- kernel-checked: https, `sock_connect = 2.5 s`, the peer accepts TCP at 613 ms and stalls the TLS
handshake: `ConnectionTimeoutError` at 2503 ms (the handshake is inside the same sock_connect
window as the TCP connect), slot freed, socket closed; with the handshake completing at 700 ms the
request proceeds -/
example :
    let c : Cfg := { sockConnect := some 2500, https := true }
    let s := observe c (run c (init false) [(3, [.startR]), (613, [.connDone 0])])
    let s' := run c (init false) [(3, [.startR]), (613, [.connDone 0]), (700, [.tlsDone 0])]
    s.pc = .done .connTimeout 2503 ∧ s.slot = .none ∧ s.closedSocks = 1 ∧ s'.pc = .headers ∧ s'.slot = .proto := by
  decide +kernel

/-- **interim responses (K4).** In sources with the fix (`interimKeepsTimerWhenSent`), a 1xx interim
response that arrives after the request was sent completely leaves the read timer exactly as the
arrival of its bytes re-armed it — the wait for the final head stays bounded by sock_read; while the
request body is still outstanding (`reqSent = false`, e.g. `100 Continue` before a long upload) the
timer is dropped in every source, so a slow upload cannot time out spuriously. -/
theorem interim_timer (cfg : Cfg) (s : St) (hw : ¬ (s.wait100 = true ∧ s.wr = .parked)) :
    (Gen.C18.interimKeepsTimerWhenSent = true → s.reqSent = true → (interimStep cfg s).readT = s.readT) ∧
    (s.reqSent = false → (interimStep cfg s).readT = none) := by
  unfold interimStep
  constructor
  · intro h1 h2; simp [h1, h2, hw]
  · intro h2; simp [h2, dropRead, hw]

/-- after `100 Continue` with a stalled upload nothing arms the read timer until the upload resumes -/
theorem continue_released_no_timer (cfg : Cfg) (s : St) (hs : s.reqSent = false) (hw : s.wait100 = true)
    (hp : s.wr = .parked) (hst : cfg.wstall = true) :
    (interimStep cfg s).readT = none ∧ (interimStep cfg s).wait100 = false ∧ (interimStep cfg s).wr = .parked := by
  unfold interimStep; simp [hs, hw, hp, hst, dropRead]

/-- kernel-checked: overlapping phases with the peer stalled in both directions — the upload is parked
in `drain()`, head and 6 body bytes arrive — (1) the caller leaves `async with` after its first chunk:
ok at once, the writer task is cancelled, connection closed (body unread), slot freed;
(2) the caller keeps reading and `total = 2 s` expires: `TimeoutError` at 2003 ms, same cleanup. -/
example :
    let c1 : Cfg := { wstall := true, early := true }
    let s1 := observe c1 (run c1 (init false)
      [(3, [.startR]), (13, [.connDone 0]), (103, [.bytes ⟨45, true, 6, false, false, false⟩])])
    let c2 : Cfg := { wstall := true, total := some 2000 }
    let s2 := observe c2 (run c2 (init false)
      [(3, [.startR]), (13, [.connDone 0]), (103, [.bytes ⟨45, true, 6, false, false, false⟩])])
    (s1.pc = .done .ok 103 ∧ s1.wr = .cancelled ∧ s1.slot = .none ∧ s1.tr = .closed ∧ s1.pooled = false) ∧
    (s2.pc = .done .timeout 2003 ∧ s2.wr = .cancelled ∧ s2.slot = .none ∧ s2.tr = .closed) := by
  decide +kernel

/-- **redirect_keeps_total.** Following a redirect (release of the 3xx response's connection, new
`connect()` for the next hop) leaves the total timer exactly as it was armed at the start of the
request: `total` spans all hops, whereas the connect window is armed afresh (`armConn`). -/
theorem redirect_keeps_total (cfg : Cfg) (s : St) : (redirectStep cfg s).totalT = s.totalT := by
  have h : (armConn cfg (releaseWaiter cfg (resetHop s))).totalT = s.totalT := by
    obtain ⟨t, q, ea⟩ := armConn_eq cfg (releaseWaiter cfg (resetHop s))
    obtain ⟨q, w, k, p, er, -⟩ := releaseWaiter_eq cfg (resetHop s)
    rw [ea, er]; rfl
  fun_cases redirectStep cfg s
  · exact h
  · exact (createConn_keeps cfg _).1.trans h

/-! ## others are unaffected -/

/-- what R's own transitions may do to the co-request and the shared lookup: nothing, or
let the co-request complete -/
def CoRel (s s' : St) : Prop :=
  s'.lookup = s.lookup ∧ s'.dnsWaitC = s.dnsWaitC ∧ s'.cached = s.cached ∧ (s'.cpc = s.cpc ∨ s'.cpc = .ok)

theorem CoRel.refl (s : St) : CoRel s s := ⟨rfl, rfl, rfl, Or.inl rfl⟩
theorem CoRel.trans {a b c : St} (h1 : CoRel a b) (h2 : CoRel b c) : CoRel a c := by
  obtain ⟨a1, a2, a3, a4⟩ := h1; obtain ⟨b1, b2, b3, b4⟩ := h2
  refine ⟨b1.trans a1, b2.trans a2, b3.trans a3, ?_⟩
  rcases b4 with h | h
  · rw [h]; exact a4
  · exact Or.inr h

theorem corel_releaseWaiter (cfg : Cfg) (s : St) : CoRel s (releaseWaiter cfg s) := by
  obtain ⟨q, w, k, p, h, -, hp⟩ := releaseWaiter_eq cfg s
  rw [h]; exact ⟨rfl, rfl, rfl, hp⟩
theorem CancelOnly.corel {s s' : St} (h : CancelOnly s s') : CoRel s s' := by
  obtain ⟨c, m, rfl⟩ := h; exact .refl s
theorem corel_tcExit (s : St) (e : Exc) : CoRel s (tcExit s e).1 := (tcExit_eq s e).corel
theorem corel_connExit (s : St) (e : Exc) : CoRel s (connExit s e).1 :=
  (ctxExitCore_eq s.connCtx s.connBase s e).corel
theorem corel_sockExit (s : St) (e : Exc) : CoRel s (sockExit s e).1 :=
  (ctxExitCore_eq s.sockCtx s.sockBase s e).corel
theorem corel_finish (s : St) (o : Outcome) : CoRel s (finish s o) := .refl s
theorem corel_attemptConn (cfg : Cfg) (s : St) : CoRel s (attemptConn cfg s) := by
  obtain ⟨t, q, h⟩ := attemptConn_eq cfg s
  rw [h]; exact .refl s
theorem corel_closeConn (cfg : Cfg) (s : St) : CoRel s (closeConn cfg s) := by
  fun_cases closeConn cfg s
  · exact .refl s
  · exact .trans ⟨rfl, rfl, rfl, .inl rfl⟩ (corel_releaseWaiter cfg _)
theorem corel_releaseConn (cfg : Cfg) (s : St) : CoRel s (releaseConn cfg s) := by
  fun_cases releaseConn cfg s
  · exact .refl s
  · exact corel_closeConn cfg s
  · exact .trans ⟨rfl, rfl, rfl, .inl rfl⟩ (corel_releaseWaiter cfg _)
theorem corel_releasePlaceholder (cfg : Cfg) (s : St) : CoRel s (releasePlaceholder cfg s) := by
  unfold releasePlaceholder
  exact CoRel.trans ⟨rfl, rfl, rfl, Or.inl rfl⟩ (corel_releaseWaiter cfg _)
theorem corel_connPhaseExit (s : St) (e : Exc) : CoRel s (connPhaseExit s e) := by
  unfold connPhaseExit
  exact CoRel.trans (corel_connExit s e) (CoRel.trans (corel_tcExit _ _) (corel_finish _ _))

/-- **others_unaffected (single failure, any await).** When a timeout error or a cancellation
is raised at ANY await of the request (pool wait, DNS as owner or as waiter, connecting,
awaiting headers, think time, reading the body) the cleanup leaves the shared DNS lookup
running, leaves the co-request's per-waiter future registered, keeps the DNS cache, and the
co-request is neither failed nor cancelled (at most it is woken and completes). -/
theorem others_unaffected_step (cfg : Cfg) (s : St) (e : Exc) : CoRel s (throwAt cfg s e) := by
  have dns : CoRel s (connPhaseExit (releasePlaceholder cfg { s with dnsWaitR := false }) e) :=
    .trans (corel_releasePlaceholder cfg { s with dnsWaitR := false }) (corel_connPhaseExit _ e)
  -- one case per branch of `throwAt`, in its order
  fun_cases throwAt cfg s e
  case case1 =>
    exact ite_elim (fun x => CoRel s (connPhaseExit x e))
      (fun _ => .trans (corel_releaseWaiter cfg { s with poolQ := s.poolQ.filter (· ≠ .R), rWoken := false })
        (corel_connPhaseExit _ e))
      fun _ => corel_connPhaseExit { s with poolQ := s.poolQ.filter (· ≠ .R) } e
  case case2 => exact dns
  case case3 => exact dns
  case case4 =>
    -- the later step first: it fixes the state in between (after `sockExit`, with the next address selected)
    refine .trans ?_ (corel_attemptConn cfg _)
    exact corel_sockExit { s with closedSocks := s.closedSocks + 1 } e
  case case5 =>
    exact .trans (corel_sockExit { s with closedSocks := s.closedSocks + 1 } e)
      (.trans (corel_releasePlaceholder cfg _) (corel_connPhaseExit _ _))
  case case6 =>
    exact .trans (corel_tcExit s e) (.trans (corel_closeConn cfg _) (.trans (corel_tcExit _ _) (corel_finish _ _)))
  case case7 => exact .trans (corel_tcExit s e) (.trans (corel_closeConn cfg _) (corel_finish _ _))
  case case8 => exact .trans (corel_releaseConn cfg s) (corel_finish _ _)
  case case9 => exact .refl s

/- Full statement (not proved as a theorem over timelines):
   `∀ cfg co tl, let s := run cfg (init co c0) tl; s.cpc ≠ .failed ∧ s.cpc ≠ .cancelled ∧
      (quiescent s → slotFree cfg s → Who.C ∉ s.poolQ)`.
   The single-transition form above is what is proved; the last conjunct was FALSE before the
   repository's fix "a woken pool waiter that is cancelled before it runs passes the wake-up on"
   (finding F8) — the model follows the fixed code, see the run below. -/

/-- The F8 scenario as a kernel-checked run of the model: limit 1, holder H, R and C queued;
H releases (R is woken), R is cancelled before it runs: R ends cancelled and hands the
wake-up on, so C is served. -/
theorem pool_cowaiter_wakeup_passed_on :
    let s := observe { limit1 := true } (run { limit1 := true } (init true)
      [(0, [.startH]), (10, [.startR]), (11, [.startC]), (500, [.holderRelease, .cancelLate])])
    s.pc = .done .cancelled 500 ∧ s.slot = .none ∧ s.holder = false ∧ s.poolQ = [] ∧ s.cpc = .ok := by
  decide +kernel

/-- The same instant with the cancellation delivered BEFORE the holder's task runs: the waiter
future is already cancelled, `_release_waiter` skips it and C is served. -/
example :
    let s := observe { limit1 := true } (run { limit1 := true } (init true)
      [(0, [.startH]), (10, [.startR]), (11, [.startC]), (500, [.holderRelease, .cancel])])
    s.pc = .done .cancelled 500 ∧ s.poolQ = [] ∧ s.cpc = .ok := by
  decide +kernel

/-- Shared lookup: R owns the lookup, C waits on it, R times out (total = 2 s) while the
resolver stalls; the lookup survives and C completes when the answer arrives at 3 s. -/
example :
    let cfg : Cfg := { total := some 2000, useDns := true }
    let s := observe cfg (run cfg (init true) [(3, [.startR]), (4, [.startC]), (3001, [.dnsAnswer])])
    s.pc = .done .timeout 2003 ∧ s.cpc = .ok ∧ s.slot = .none ∧ s.dnsWaitR = false := by
  decide +kernel

end Aio.C18
