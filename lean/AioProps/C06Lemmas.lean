import AioModel.C06World
import AioProps.Basics
/-!
# C06 — the toy parser of the counterexamples, the single-connection machine, and its lemmas

Every operation on a `Conn` is a `Frame` or, weaker, a `Keeps`, and that is all the head invariant
`OwnInv` needs; what `_get` does to a connection is said once per function by a case lemma
(`tryAcquire_cases`, `acqResult_cases`).
-/
namespace Aio.C06
open Aio

/-- A parser small enough for `decide +kernel`: every byte is one token.
`1` = head of a message with a body stream, `2` = one body byte, `3` = end of body,
`4` = complete bodiless message, `5` = a byte of an unfinished message (kept inside the
parser), `9` = malformed. -/
def toyTok (b : UInt8) : List PEv :=
  if b = 1 then [.msg { code := 200, shouldClose := false, mark := [] } true]
  else if b = 2 then [.data [2]]
  else if b = 3 then [.eof]
  else if b = 4 then [.msg { code := 200, shouldClose := false, mark := [] } false]
  else []

def toyParser : Parser where
  σ := Nat
  init _ := 0
  feed s data :=
    { st := s + (data.filter (· = 5)).length, evs := data.flatMap toyTok, upgraded := false, rest := [],
      err := data.any (· = 9) }
  feedEof _ := ([], false)
  pending s := decide (s ≠ 0)
  emptyBody _ := false

def k0 : Key := { host := 1, port := 80, isSsl := false, ssl := 0, proxy := 0, proxyHdr := 0, sni := 0 }

/-- every ghost tag of what exchange `j` was given is `j` -/
def World.ownOK {P : Parser} (w : World P) (j : Nat) : Bool :=
  match w.exchs[j]? with
  | some e => e.headProv.all (· == some j) && e.bodyProv.all (· == some j)
  | none => true
def World.phaseOf {P : Parser} (w : World P) (j : Nat) : Option Phase := (w.exchs[j]?).map (·.phase)
def World.usedOf {P : Parser} (w : World P) (j : Nat) : List Nat :=
  match w.exchs[j]? with | some e => e.used | none => []
def World.errOf {P : Parser} (w : World P) (j : Nat) : Option Exc :=
  match w.exchs[j]? with | some e => e.err | none => none

/-- F6: a complete response arrives while the connection idles in the pool -/
def hUnsolicited : List Op := [.request k0 false [], .recv 0 [4], .recv 0 [4], .request k0 false []]
/-- the read that ends the body of response 0 also carries a complete further response -/
def hSurplusSameRead : List Op := [.request k0 false [], .recv 0 [1], .recv 0 [3, 4], .request k0 false []]
/-- bytes handed over before the first request is sent on a new connection -/
def hEarly : List Op := [.request k0 false [4]]
/-- response 0 followed, in the same read, by the first byte of another message -/
def hPartialSurplus : List Op := [.request k0 false [], .recv 0 [4, 5], .request k0 false []]

/-! ## One connection under all histories: the op language of the inductive theorems -/
variable {P : Parser}

/-- what can happen to one connection -/
inductive COp where
  /-- a request with key `k` by exchange `j` tries to take this connection (`_get` on a pooled
  one, or first use of a new one) and, if it gets it, calls `set_response_params` -/
  | acquire (k : Key) (j : Nat) (skip : Bool)
  /-- the transport delivers bytes -/
  | recv (data : Bytes)
  /-- the holder's `protocol.read()` returns the queue head; `start()` registers the eof callback -/
  | pop
  /-- `Connection.release()` / `Connection.close()` by the holder -/
  | release (explicit : Bool)
  /-- peer closed / reset -/
  | lost (os : Bool)
  /-- time passes -/
  | tick (d : Nat)
  /-- the transport starts closing (peer FIN read); `connection_lost` follows with `lost` -/
  | beginClose
  /-- the transport will hold `connection_lost` back after a `transport.close()` -/
  | hold

structure CS (P : Parser) where
  c : Conn P
  now : Nat := 0
  /-- ghost log: (exchange, provenance) of every head handed to a caller -/
  heads : List (Nat × List Tag) := []
  /-- ghost: the connection was handed out at a moment when its queue or tail was not empty -/
  dirtyAcq : Bool := false

structure CCfg where
  fix : Bool
  forceClose : Bool := false
  keepalive : Nat := 120

/-- `_get` on a pooled connection, or first use of a new one -/
def acqResult (g : CCfg) (c : Conn P) (k : Key) (j now : Nat) : Conn P × Bool :=
  if c.pooled.isSome then c.tryAcquire k j now g.keepalive g.fix
  else if c.owner.isNone && c.parser.isNone && c.connected && !(g.fix && c.shouldCloseProp)
    then ({ c with pooled := none, owner := some j }, true) else (c, false)

def cAcquire (g : CCfg) (s : CS P) (k : Key) (j : Nat) (skip : Bool) : CS P :=
  if (acqResult g s.c k j s.now).2 then
    { s with c := ((acqResult g s.c k j s.now).1.setResponseParams s.now g.forceClose skip).1,
             dirtyAcq := s.dirtyAcq || !s.c.buffer.isEmpty || !s.c.tail.isEmpty }
  else { s with c := (acqResult g s.c k j s.now).1 }

def cstep (g : CCfg) (s : CS P) : COp → CS P
  | .acquire k j skip => cAcquire g s k j skip
  | .recv data =>
    if s.c.connected then { s with c := (s.c.dataReceived s.now g.forceClose data [s.c.owner]).1 } else s
  | .pop =>
    match s.c.owner, s.c.popHead with
    | some j, some (q, c') => { s with c := (c'.onEof s.now g.forceClose q.pay).1, heads := s.heads ++ [(j, q.prov)] }
    | _, _ => s
  | .release explicit =>
    if s.c.owner.isSome then { s with c := s.c.release s.now g.forceClose explicit } else s
  | .lost os => { s with c := (s.c.connectionLost os).1 }
  | .tick d => { s with now := s.now + d }
  | .beginClose => { s with c := s.c.beginClose }
  | .hold => { s with c := { s.c with holdLost := true } }

def crun (g : CCfg) (s : CS P) (ops : List COp) : CS P := ops.foldl (cstep g) s

theorem crun_inv {g : CCfg} (I : CS P → Prop) (hstep : ∀ s op, I s → I (cstep g s op)) (ops : List COp) (s : CS P)
    (h : I s) : I (crun g s ops) := by
  induction ops generalizing s with
  | nil => exact h
  | cons op rest ih => exact ih _ (hstep s op h)

/-- the fields the head invariant talks about are untouched, the holder stays or goes -/
structure Frame (c c' : Conn P) : Prop where
  ptags : c'.ptags = c.ptags
  tailTags : c'.tailTags = c.tailTags
  buffer : c'.buffer = c.buffer
  tail : c'.tail = c.tail
  stale : c'.stale = c.stale
  owner : c'.owner = c.owner ∨ c'.owner = none

/-- every ghost tag on the connection (consumed by the current parser, waiting in the tail, stamped
on a queued message) is `o` -/
def Own (o : Tag) (c : Conn P) : Prop :=
  (∀ t ∈ c.ptags, t = o) ∧ (∀ t ∈ c.tailTags, t = o) ∧ (∀ q ∈ c.buffer, ∀ t ∈ q.prov, t = o)

/-- while exchange `j` holds the connection, everything the current parser consumed, the tail
and every queued message stem from chunks that arrived while `j` held it -/
def OwnInv (c : Conn P) : Prop := ∀ j, c.owner = some j → Own (some j) c

/-- from `c` to `c'` the holder stays or goes, and only chunks tagged `o` arrive -/
def Keeps (o : Tag) (c c' : Conn P) : Prop :=
  (c'.owner = c.owner ∨ c'.owner = none) ∧ (Own o c → Own o c')

theorem Frame.refl (c : Conn P) : Frame c c := ⟨rfl, rfl, rfl, rfl, rfl, Or.inl rfl⟩
theorem Frame.trans {a b c : Conn P} (h1 : Frame a b) (h2 : Frame b c) : Frame a c :=
  ⟨h2.ptags.trans h1.ptags, h2.tailTags.trans h1.tailTags, h2.buffer.trans h1.buffer, h2.tail.trans h1.tail,
   h2.stale.trans h1.stale, h2.owner.elim (fun h => h1.owner.imp h.trans h.trans) Or.inr⟩

theorem frame_modPay (c : Conn P) (p : Nat) (f : Pay → Pay) : Frame c (c.modPay p f) := by
  unfold Conn.modPay; split <;> exact ⟨rfl, rfl, rfl, rfl, rfl, Or.inl rfl⟩
theorem frame_payFail (c : Conn P) (p : Nat) (e : Exc) : Frame c (c.payFail p e) := frame_modPay _ _ _
theorem frame_setException (c : Conn P) (e : Exc) : Frame c (c.setException e) :=
  ⟨rfl, rfl, rfl, rfl, rfl, Or.inl rfl⟩

theorem frame_evData (c : Conn P) (bs : Bytes) : Frame c (c.evData bs) := by
  unfold Conn.evData; split
  · exact frame_modPay _ _ _
  · exact Frame.refl _

theorem frame_evEofMark (c : Conn P) : Frame c c.evEofMark.1 := by
  unfold Conn.evEofMark; split
  · next p _ =>
    have h := frame_modPay c p fun y => { y with eof := true, cb := false, prov := c.ptags }
    exact h.trans ⟨rfl, rfl, rfl, rfl, rfl, Or.inl rfl⟩
  · exact Frame.refl _

theorem frame_evPerr (c : Conn P) : Frame c c.evPerr := by
  unfold Conn.evPerr; split
  · next p _ => exact (frame_payFail c p .payload).trans ⟨rfl, rfl, rfl, rfl, rfl, Or.inl rfl⟩
  · exact Frame.refl _

theorem frame_applyEvCore (rel : Conn P → Conn P) (hrel : ∀ c, Frame c (rel c)) (c : Conn P) (r : Bool)
    (ms : List (Msg × Option Nat)) (e : PEv) : Frame c (Conn.applyEvCore rel c r ms e).1 := by
  fun_cases Conn.applyEvCore rel c r ms e
  case case1 | case2 => exact ⟨rfl, rfl, rfl, rfl, rfl, Or.inl rfl⟩
  case case3 bs => exact frame_evData c bs
  case case4 => exact (frame_evEofMark c).trans (hrel _)
  case case5 => exact frame_evEofMark c
  case case6 => exact frame_evPerr c

theorem frame_applyEvsCore (rel : Conn P → Conn P) (hrel : ∀ c, Frame c (rel c)) (evs : List PEv) (c : Conn P) (r : Bool)
    (ms : List (Msg × Option Nat)) : Frame c (Conn.applyEvsCore rel c r ms evs).1 := by
  induction evs generalizing c r ms with
  | nil => exact Frame.refl _
  | cons e es ih => exact (frame_applyEvCore rel hrel c r ms e).trans (ih _ _ _)

theorem frame_lostFeed (c : Conn P) : Frame c c.lostFeed.1 := by
  unfold Conn.lostFeed
  split
  · exact frame_applyEvsCore _ (fun c => (⟨rfl, rfl, rfl, rfl, rfl, Or.inr rfl⟩ : Frame c { c with owner := none })) _ _ _ _
  · exact Frame.refl _

theorem frame_lostFail (c : Conn P) (r : Bool) : Frame c (c.lostFail r) := by
  fun_cases Conn.lostFail c r
  case case1 => exact frame_payFail _ _ _
  case case2 | case3 => exact Frame.refl _

theorem frame_lostExc (c : Conn P) (os : Bool) : Frame c (c.lostExc os) :=
  ite_elim (Frame c) (fun _ => frame_setException _ _) fun _ => Frame.refl c

theorem frame_lostEnd (c : Conn P) : Frame c c.lostEnd := ⟨rfl, rfl, rfl, rfl, rfl, Or.inl rfl⟩

theorem frame_lostCore (c : Conn P) (os : Bool) : Frame c (c.lostCore os).1 :=
  (((frame_lostFeed c).trans (frame_lostFail _ _)).trans (frame_lostExc _ _)).trans (frame_lostEnd _)

theorem frame_protoClose (c : Conn P) : Frame c c.protoClose := by
  refine ite_elim (Frame c) (fun _ => ⟨rfl, rfl, rfl, rfl, rfl, Or.inl rfl⟩) fun _ =>
    Frame.trans ?_ (frame_lostCore _ false)
  exact ⟨rfl, rfl, rfl, rfl, rfl, Or.inl rfl⟩

theorem Conn.protoClose_closed (c : Conn P) :
    c.protoClose.connected = false ∧ c.protoClose.pooled = none := by
  fun_cases Conn.protoClose c
  case case1 h =>
    rw [Bool.and_eq_true, Bool.not_eq_true'] at h
    exact ⟨h.1, rfl⟩
  case case2 => exact ⟨rfl, rfl⟩

theorem frame_connectionLost (c : Conn P) (os : Bool) : Frame c (c.connectionLost os).1 :=
  ite_elim (fun r : Conn P × Bool => Frame c r.1) (fun _ => Frame.refl c) fun _ => frame_lostCore c os

theorem frame_release (c : Conn P) (now : Nat) (fc ex : Bool) : Frame c (c.release now fc ex) := by
  refine ite_elim (Frame c) (fun _ => Frame.trans ?_ (frame_protoClose _)) fun _ => ?_
  all_goals exact ⟨rfl, rfl, rfl, rfl, rfl, Or.inr rfl⟩

theorem frame_onEof (c : Conn P) (now : Nat) (fc : Bool) (pay : Option Nat) : Frame c (c.onEof now fc pay).1 := by
  fun_cases Conn.onEof c now fc pay
  case case1 | case4 => exact Frame.refl c
  case case2 => exact frame_release c now fc false
  case case3 => exact frame_modPay _ _ _

theorem frame_beginClose (c : Conn P) : Frame c c.beginClose :=
  ite_elim (Frame c) (fun _ => ⟨rfl, rfl, rfl, rfl, rfl, Or.inl rfl⟩) fun _ => Frame.refl c

theorem beginClose_not_connected (c : Conn P) : c.beginClose.connected = false := by
  fun_cases Conn.beginClose c
  case case1 => rfl
  case case2 h => exact Bool.not_eq_true _ ▸ h

theorem Keeps.trans {o : Tag} {a b c : Conn P} (h1 : Keeps o a b) (h2 : Keeps o b c) : Keeps o a c :=
  ⟨h2.1.elim (fun h => h1.1.imp h.trans h.trans) Or.inr, h2.2 ∘ h1.2⟩

theorem Frame.keeps {c c' : Conn P} (f : Frame c c') (o : Tag) : Keeps o c c' :=
  ⟨f.owner, fun h => by unfold Own; rw [f.ptags, f.tailTags, f.buffer]; exact h⟩

theorem OwnInv.keeps {c c' : Conn P} (h : OwnInv c) (k : Keeps c.owner c c') : OwnInv c' := by
  intro j hj
  rcases k.1 with ho | ho
  · rw [ho] at hj
    rw [hj] at k
    exact k.2 (h j hj)
  · rw [ho] at hj; cases hj

theorem OwnInv.frame {c c' : Conn P} (h : OwnInv c) (f : Frame c c') : OwnInv c' := h.keeps (f.keeps _)

theorem keeps_tail {o : Tag} {tags : List Tag} (ht : ∀ t ∈ tags, t = o) (c : Conn P) (tl : Bytes) (st : Bool) :
    Keeps o c { c with tail := tl, tailTags := c.tailTags ++ tags, stale := st } :=
  ⟨Or.inl rfl, fun h => ⟨h.1, List.forall_mem_append.mpr ⟨h.2.1, ht⟩, h.2.2⟩⟩

theorem keeps_pushMsgs (o : Tag) (ms : List (Msg × Option Nat)) (c : Conn P) : Keeps o c (c.pushMsgs ms) := by
  fun_induction Conn.pushMsgs c ms with
  | case1 c => exact (Frame.refl c).keeps o
  | case2 c m p rest c1 c2 q c3 ih =>
    have h1 : Frame c c1 := ite_elim (Frame c) (fun _ => ⟨rfl, rfl, rfl, rfl, rfl, Or.inl rfl⟩) fun _ => Frame.refl c
    have h3 : Keeps o c1 c3 := ⟨Or.inl rfl, fun h => ⟨h.1, h.2.1,
      List.forall_mem_append.mpr ⟨h.2.2, fun q hq => List.mem_singleton.mp hq ▸ h.1⟩⟩⟩
    exact ((h1.keeps o).trans h3).trans ih

theorem keeps_dataReceived {o : Tag} {tags : List Tag} (ht : ∀ t ∈ tags, t = o) (c : Conn P) (now : Nat) (fc : Bool)
    (data : Bytes) : Keeps o c (c.dataReceived now fc data tags).1 := by
  have feed : ∀ s, Keeps o c (Conn.applyEvs { c with parser := some (P.feed s data).st, ptags := c.ptags ++ tags }
      now fc (P.feed s data).evs).1 := by
    intro s
    refine Keeps.trans ?_ ((frame_applyEvsCore _ (fun c => frame_release c now fc false) _ _ false []).keeps o)
    exact ⟨Or.inl rfl, fun h => ⟨List.forall_mem_append.mpr ⟨h.1, ht⟩, h.2⟩⟩
  fun_cases Conn.dataReceived c now fc data tags
  case case1 | case2 => exact keeps_tail ht c _ _
  case case3 s _ _ r c0 c1 rel msgs happ _ c2 c3 =>
    -- parse error: `set_exception`, then the transport closes at once or later
    have h2 := feed s
    rw [happ] at h2
    have h3 : Keeps o c c2 := h2.trans ((frame_setException c1 .http).keeps o)
    have h4 : Keeps o c { c2 with connected := false } := h3
    exact ite_elim (Keeps o c) (fun _ => ite_elim (Keeps o c) (fun _ => h3)
      fun _ => h4.trans ((frame_lostCore _ false).keeps o)) fun _ => h3
  case case4 s _ _ r c0 c1 rel msgs happ _ c2 c3 c4 =>
    have h2 := feed s
    rw [happ] at h2
    have h3 : Keeps o c c3 := Keeps.trans (b := c2) h2 (keeps_pushMsgs o msgs _)
    exact ite_elim (Keeps o c) (fun _ => h3.trans (keeps_tail ht _ _ _)) fun _ => h3

theorem shouldCloseProp_eq_false_iff (c : Conn P) :
    c.shouldCloseProp = false ↔
      c.shouldClose = false ∧ (∀ p, c.payload = some p → c.payEof p = true) ∧ c.upgraded = false ∧
        c.exc = none ∧ c.buffer = [] ∧ c.tail = [] := by
  unfold Conn.shouldCloseProp
  simp only [Bool.or_eq_false_iff, Bool.not_eq_eq_eq_not, Bool.not_false, List.isEmpty_iff, Option.isSome_eq_false_iff,
    Option.isNone_iff_eq_none, and_assoc]
  cases c.payload with
  | none => simp only [reduceCtorEq, false_imp_iff, implies_true, true_and]
  | some p => simp only [Bool.not_eq_eq_eq_not, Bool.not_false, Option.some.injEq, forall_eq']

theorem shouldCloseProp_false_empty (c : Conn P) (h : c.shouldCloseProp = false) : c.buffer = [] ∧ c.tail = [] :=
  ((shouldCloseProp_eq_false_iff c).mp h).2.2.2.2

theorem reusable_true {c : Conn P} {now ka : Nat} {fix : Bool} (h : c.reusable now ka fix = true) :
    c.pooled.isSome = true ∧ c.connected = true ∧
      (fix = true → c.shouldCloseProp = false ∧ c.parserPending = false) := by
  unfold Conn.reusable at h
  split at h
  · next hp =>
    simp only [Bool.and_eq_true, Bool.or_eq_true, Bool.not_eq_true'] at h
    refine ⟨by rw [hp]; rfl, h.1.1, fun hf => ?_⟩
    rcases h.2 with h2 | h2
    · rw [hf] at h2; cases h2
    · exact Bool.or_eq_false_iff.mp h2
  · cases h

theorem tryAcquire_cases (c : Conn P) (k : Key) (j now ka : Nat) (fix : Bool) :
    (c.key = k ∧ c.reusable now ka fix = true ∧
      c.tryAcquire k j now ka fix = ({ c with pooled := none, owner := some j }, true)) ∨
    ((c.tryAcquire k j now ka fix).2 = false ∧ Frame c (c.tryAcquire k j now ka fix).1) := by
  fun_cases Conn.tryAcquire c k j now ka fix
  case case1 h => exact Or.inl ⟨h.1, h.2, rfl⟩
  case case2 =>
    refine Or.inr ⟨rfl, Frame.trans ?_ (frame_protoClose _)⟩
    exact ⟨rfl, rfl, rfl, rfl, rfl, Or.inl rfl⟩
  case case3 => exact Or.inr ⟨rfl, Frame.refl c⟩

theorem acqResult_cases (g : CCfg) (c : Conn P) (k : Key) (j now : Nat) :
    (acqResult g c k j now = ({ c with pooled := none, owner := some j }, true) ∧
      (g.fix = true → c.shouldCloseProp = false)) ∨
    ((acqResult g c k j now).2 = false ∧ Frame c (acqResult g c k j now).1) := by
  fun_cases acqResult g c k j now
  case case1 =>
    rcases tryAcquire_cases c k j now g.keepalive g.fix with ⟨_, hr, he⟩ | h
    · exact Or.inl ⟨he, fun hf => ((reusable_true hr).2.2 hf).1⟩
    · exact Or.inr h
  case case2 _ h =>
    simp only [Bool.and_eq_true, Bool.not_eq_true', Bool.and_eq_false_iff] at h
    exact Or.inl ⟨rfl, fun hf => h.2.resolve_left (by rw [hf]; exact Bool.noConfusion)⟩
  case case3 => exact Or.inr ⟨rfl, Frame.refl c⟩

theorem setResponseParams_clean (c : Conn P) (now : Nat) (fc skip : Bool) (h : c.tail = []) :
    (c.setResponseParams now fc skip).1 =
      { c with skip := skip, parser := some (P.init skip), ptags := [], cur := none, pj := c.owner, tailTags := [] } := by
  unfold Conn.setResponseParams
  dsimp only
  rw [h, if_neg (by exact Bool.noConfusion)]

theorem ownInv_setResponseParams (c : Conn P) (now : Nat) (fc skip : Bool) (hb : c.buffer = []) (ht : c.tail = []) :
    OwnInv (c.setResponseParams now fc skip).1 := by
  rw [setResponseParams_clean c now fc skip ht]
  exact fun j _ => ⟨fun _ h => absurd h List.not_mem_nil, fun _ h => absurd h List.not_mem_nil,
    fun q h => absurd (hb ▸ h : q ∈ []) List.not_mem_nil⟩

theorem popHead_some {c c' : Conn P} {q : QEntry} (h : c.popHead = some (q, c')) :
    ∃ rest, c.buffer = q :: rest ∧ c' = { c with buffer := rest } := by
  unfold Conn.popHead at h
  split at h
  · next hb =>
    cases h
    exact ⟨_, hb, rfl⟩
  · cases h

end Aio.C06
