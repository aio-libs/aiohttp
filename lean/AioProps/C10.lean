import AioProps.HttpLemmas
/-!
# C10 — parsers are total and enforce their configured limits

Totality is by construction: `feed`, `feedEof` and everything below them are total Lean
functions whose only failure value is `Err` (the `HttpProcessingError` family) — there is no
other exception type in the model, and the correspondence run reports any other exception
type leaving the real parser as `E_OTHER(..)`, i.e. as a mismatch.  The theorems below state
the limit enforcement and the bound on retained bytes, for every limit configuration.
-/
namespace Aio.Http
open Aio

/-- **Over-long lines are rejected.** A completed start line longer than `max_line_size`, or a
completed header line longer than `max_field_size` (a CR of a lax CRLF terminator not
counted), is refused with `LineTooLong` — whatever else the line contains. -/
theorem long_line_rejected (cfg : Cfg) (st : St) (raw : Bytes)
    (h : lineLen cfg raw > maxLenFor cfg st) : acceptLine cfg st raw = .error .lineTooLong := by
  simp [acceptLine, h]

/-- **Too many header lines are rejected.** -/
theorem too_many_headers_rejected (cfg : Cfg) (st : St) (raw : Bytes)
    (hlen : ¬ lineLen cfg raw > maxLenFor cfg st) (h : st.lines.length ≥ cfg.maxHeaders) :
    acceptLine cfg st raw = .error .badHttpMessage := by
  simp only [acceptLine, hlen, if_false]
  have : (st.lines ++ [if cfg.lax then rstrip (· == 13) raw else raw]).length > cfg.maxHeaders := by
    simp; omega
  simp only [this, if_true]

theorem rstrip_length_le (p : UInt8 → Bool) (bs : Bytes) : (rstrip p bs).length ≤ bs.length := by
  obtain ⟨r, e, _⟩ := rstrip_spec p bs
  have := congrArg List.length e
  rw [List.length_append] at this
  omega

/-- **What is kept of a header block is bounded.** Every accepted line is at most the limit in
force long, and there are never more than `max_headers` of them. -/
theorem accepted_lines_bounded (cfg : Cfg) (st : St) (raw : Bytes) (lines : List Bytes)
    (h : acceptLine cfg st raw = .ok lines) :
    lines.length ≤ cfg.maxHeaders ∧
    ∃ line, lines = st.lines ++ [line] ∧ line.length ≤ maxLenFor cfg st + 1 := by
  revert h
  fun_cases acceptLine cfg st raw
  case case1 | case2 => exact nofun
  case case3 line hl _ hc =>
    intro h
    injection h with h
    subst h
    refine ⟨Nat.le_of_not_lt hc, line, rfl, ?_⟩
    unfold lineLen at hl
    by_cases hlax : cfg.lax = true
    · have := rstrip_length_le (· == 13) raw
      simp only [line, hlax, if_true] at hl ⊢
      split at hl <;> omega
    · simp only [line, hlax] at hl ⊢
      simp at hl ⊢; omega

/-- **The buffered partial line is bounded.** When no terminator has arrived and the early
checks let the buffer stand, the tail kept for the next read is at most one byte longer than
the limit in force (the one byte being a CR that may start the terminator). Otherwise the read
is rejected. -/
theorem partial_line_bounded (cfg : Cfg) (st : St) (data : Bytes) (evs : List Ev) :
    let o := partialLine cfg st data evs
    (o.err = none → o.st.tail = data ∧ data.length ≤ maxLenFor cfg st + 1 ∧ (10 : UInt8) ∉ data) ∧
    (o.err ≠ none → o.st.failed = true) := by
  intro o
  rcases partialLine_cases cfg st data evs with ⟨e, h⟩ | ⟨h, hlf, hlen⟩ <;> rw [show o = _ from h]
  · exact ⟨nofun, fun _ => rfl⟩
  · refine ⟨fun _ => ⟨rfl, ?_, hlf⟩, fun he => absurd rfl he⟩
    unfold tailLen at hlen
    split at hlen <;> omega

/-- **Chunk-size lines and trailers are limited too.** The early check on a buffered partial
chunk-size line / trailer line of the chunked body parser fires as soon as the tail (less one
possible terminator CR) exceeds `max_line_size` / `max_field_size`; so the chunk tail that
survives a read is bounded by the corresponding limit plus one. -/
theorem chunk_tail_bounded (cfg : Cfg) (p : PState) (hns : p.cstate ≠ .chunk)
    (h : chunkTailTooLong cfg p = false) :
    p.tail.length ≤ (if p.cstate = .trailers then cfg.maxField else cfg.maxLine) + 1 := by
  revert h
  fun_cases chunkTailTooLong cfg p
  case case1 he =>
    rcases Bool.or_eq_true _ _ |>.mp he with he | he
    · rw [List.isEmpty_iff.mp he]; exact fun _ => Nat.zero_le _
    · exact absurd (beq_iff_eq.mp he) hns
  case case2 he ml tl =>
    intro h
    have h : tl ≤ ml := Nat.le_of_not_lt (of_decide_eq_false h)
    have h1 : p.tail.length ≤ tl + 1 := by
      simp only [tl]
      split
      · split <;> omega
      · omega
    have h2 : ml = if p.cstate = .trailers then cfg.maxField else cfg.maxLine := by simp only [ml, beq_iff_eq]
    omega
/-- a chunk-size line longer than `max_line_size` is rejected -/
theorem long_chunk_size_line_rejected (cfg : Cfg) (fuel : Nat) (p : PState) (chunk : Bytes) (evs : List Ev)
    (pos : Nat) (hne : chunk ≠ []) (hs : p.cstate = .size) (hf : findSep cfg.lax chunk = some pos)
    (hlong : pos > cfg.maxLine) :
    (chunkedLoop cfg (fuel + 1) p chunk evs).1 = .err .lineTooLong false := by
  have : chunk.isEmpty = false := by cases chunk <;> simp_all
  simp [chunkedLoop, sizeStep, this, hs, hf, hlong]

/-- **After a rejection nothing more is parsed** (the error is latched). -/
theorem rejected_stays_rejected (cfg : Cfg) (urlOk : Bool → Bytes → Bool) (st : St) (d : Bytes)
    (h : st.failed = true) : (feed cfg urlOk st d).evs = [] ∧ (feed cfg urlOk st d).err = none := by
  simp [feed, h]

end Aio.Http
