import AioProps.C02Lemmas
import AioProps.C04
/-!
# C02 — property theorems (wire round trip between two aiohttp endpoints)

Model: `AioModel/C02.lean` (decision layers of both ends), `AioModel/Http.lean` (receive side),
`AioModel/C04.lean` (writer).
-/
namespace Aio.C02
open Aio

theorem ite_rel {α β} (R : α → β → Prop) (c : Prop) [Decidable c] {a a' : α} {b b' : β}
    (h : c → R a b) (h' : ¬ c → R a' b') : R (if c then a else a') (if c then b else b') := by
  split
  · exact h ‹_›
  · exact h' ‹_›

/-- **The receive-side cascade used below is the one of the shared parser model.**  Whenever
`HttpParser.feed_data` (model `Aio.Http.onHeaderBlock`) accepts a header block, the payload it
sets up — none / `Content-Length` bytes / chunked / until end of connection —, whether the
message carries a payload stream and whether the connection is upgraded are exactly
`cascade cfg msg length`, for every configuration (request or response parser) and every
header block.  So every theorem about `cascade` is a theorem about the validated parser model. -/
theorem onHeaderBlock_eq_cascade (cfg : Http.Cfg) (urlOk : Bool → Bytes → Bool) (st : Http.St)
    (lines : List Bytes) (msg : Http.Msg) (length : Option Nat) (hst : st.upgraded = false) (hpl : st.payload = none)
    (hp : (if cfg.response then Http.parseResponse cfg lines else Http.parseRequest cfg urlOk lines) = .ok msg)
    (hl : Http.contentLength msg.headers = .ok length)
    (hk : Http.hasName msg.headers Http.bSecWsKey1 = false) :
    ∃ st' evs, Http.onHeaderBlock cfg urlOk st lines = .ok (st', evs, msg.shouldClose) ∧
      viewOf (st', evs, msg.shouldClose) = cascade cfg msg length := by
  rcases st with ⟨l, t, u, pu, pl, sc, f⟩
  subst hst hpl
  unfold Http.onHeaderBlock cascade
  simp only [hp, hl, hk, Bool.false_eq_true, if_false]
  -- both sides are now the same cascade of `if`s: compare them leaf by leaf
  let R (r : Except Http.Err (Http.St × List Http.Ev × Bool)) (v : View) : Prop :=
    ∃ st' evs, r = .ok (st', evs, msg.shouldClose) ∧ viewOf (st', evs, msg.shouldClose) = v
  have leaf {s evs v} (h : viewOf (s, evs, msg.shouldClose) = v) : R (.ok (s, evs, msg.shouldClose)) v :=
    ⟨_, _, rfl, h⟩
  apply ite_rel R <;> intro _
  · apply ite_rel R <;> intro _
    · exact leaf rfl
    · apply leaf; split <;> rfl
  · apply ite_rel R <;> intro _
    · exact leaf rfl
    · apply ite_rel R <;> intro _
      · apply ite_rel R <;> intro _ <;> exact leaf rfl
      · apply ite_rel R <;> intro _ <;> exact leaf rfl

/-- **Framing agreement, response direction.**  For every response the server-side preparation
accepts — any version, method (except CONNECT), status, `web.Response` with no / bytes / sized
or unsized payload body or a `StreamResponse`/`FileResponse`, with or without user
Content-Length, `enable_chunked_encoding`, `enable_compression` (any coding, any
Accept-Encoding), any keep-alive inputs — used admissibly (`RespAdmissible`: the handler
writes what it declared and nothing on a bodiless response), the framing the client's parser
derives from the emitted headers is the framing of the bytes the writer puts on the wire:
chunked ⇔ chunked, exactly `n` bytes ⇔ `Content-Length: n` bytes expected, nothing ⇔ nothing.
When the client reads until the connection closes, the writer indeed has neither length nor
chunking (raw bytes follow).
The hypothesis `hz` excludes a *compressing writer on a response that must be empty*: there the
unchanged code emits the compressor's trailer after the head — see
`resp_framing_disagree_compress_on_bodiless` (finding). -/
theorem resp_framing_agree (x : RespIn) (streamed : Nat) (v : RespVerdict)
    (h : respVerdict x streamed = .ok v) (ha : RespAdmissible x streamed)
    (hz : ¬ (v.out.emptyBody = true ∧ v.out.wcompress = true)) :
    (v.view.framing ≠ .untilClose → v.wire = v.view.framing) ∧
    (v.view.framing = .untilClose → (v.wire = .none ∨ v.wire = .untilClose) ∧ v.out.wlength = none ∧ v.out.wchunked = false) := by
  obtain ⟨o, ho, rfl⟩ := respVerdict_ok h
  obtain ⟨p, hpc, heb, hwz, hbz, hocl, hshape⟩ := respPrep_shape x o ho
  dsimp only at hz ⊢
  rw [clientView_framing _ _ _ _ ha.notConnect, ← mustBeEmptyBody_eq _ _ ha.notConnect, ← heb]
  simp only [respRecvHdr]
  rcases hshape with ⟨he, hwc, hte, _⟩ | ⟨he, hwc, hte, hwl, _⟩ | ⟨he, hwc, hte, hxc, hwl, hrest⟩
  · -- the response must be empty
    simp only [he, if_true]
    have hsent : (respSent x o streamed).1 = 0 := by
      unfold respSent
      have : o.wcompress = false := by simpa [he] using hz
      simp only [this, he]
      cases hr : x.isResponse
      · simp; exact ha.empty (heb ▸ he) hr
      · simp
    unfold writerFraming
    simp only [hwc, hsent]
    cases o.wlength <;> simp
  · simp [he, hte, hwc, writerFraming]
  · have heb' : mustBeEmptyBody x.method x.status = false := heb ▸ he
    have hclp : p.cl = contentLengthProp x p := prep_cl_eq_contentLengthProp x p hpc heb' hxc
    have hocl' : o.cl = o.wlength := by rw [hocl, he, hwl, hclp]; simp
    simp only [he, hte, hwc, hocl', Bool.false_eq_true, if_false]
    rcases hrest with ⟨n, hn, _⟩ | ⟨hn, hg, _, _⟩
    · simp only [hn]
      refine ⟨fun _ => writerFraming_respSent x o p streamed n hpc heb' hxc hwz hbz he ha (hwl ▸ hn), fun h => ?_⟩
      split at h <;> cases h
    · simp only [hn, writerFraming, Bool.false_eq_true, if_false]
      refine ⟨fun hc => absurd rfl hc, fun _ => ⟨?_, trivial, trivial⟩⟩
      by_cases h0 : (respSent x o streamed).1 = 0 <;> simp [h0]

/-
Full statement (FALSE on the unchanged code, see the two counterexample theorems below):

  theorem keepalive_agree (h : respVerdict x streamed = .ok v) (hnc : x.method ≠ bCONNECT)
      (hv : x.ver = ⟨1, 1⟩ ∨ x.ver = ⟨1, 0⟩) (huc : x.userConn = none) :
      serverKeeps v.out = !v.clientClose
-/
/-- **Both ends reach the same keep-alive decision** (`_partial`): for every accepted response
on HTTP/1.0 or 1.1 without an application-supplied `Connection` header, the server keeps the
connection (`resp.keep_alive`, consulted by `RequestHandler.start`) iff the client's parser does
not ask to close it (`RawResponseMessage.should_close` → `ResponseHandler.should_close`) —
*except* in the two situations excluded by `hF11` (HTTP/1.1 HEAD answered without
Content-Length: finding F11) and `hF21` (body delimited by connection close while
`resp.keep_alive` stays true: HTTP/1.0 keep-alive request answered without a length). -/
theorem keepalive_agree_partial (x : RespIn) (streamed : Nat) (v : RespVerdict)
    (h : respVerdict x streamed = .ok v) (hnc : x.method ≠ bCONNECT)
    (hv : x.ver = ⟨1, 1⟩ ∨ x.ver = ⟨1, 0⟩) (huc : x.userConn = none)
    (hF11 : ¬ (x.ver = ⟨1, 1⟩ ∧ Http.isEmptyBodyMethod x.method = true ∧ Http.isEmptyBodyStatus x.status = false ∧
      v.out.cl = none))
    (hF21 : Gen.C02.closeDelimitedClearsKeepAlive = false →
      ¬ (v.out.emptyBody = false ∧ v.out.wchunked = false ∧ v.out.wlength = none ∧ v.out.keepAlive = true)) :
    serverKeeps v.out = !v.clientClose := by
  obtain ⟨o, ho, rfl⟩ := respVerdict_ok h
  obtain ⟨p, hpc, heb, -, -, hocl, hshape⟩ := respPrep_shape x o ho
  dsimp only at hF11 hF21 ⊢
  -- the client closes iff the server's `Connection` header says so, unless it is left without framing
  have close : ∀ ka, o.conn = connOf x ka →
      (ka = true → (x.ver.is11 && !Http.isEmptyBodyStatus x.status && !(o.cl.isSome || o.te)) = false) →
      (clientView x.method x.ver x.status (respRecvHdr x o)).2 = !ka := by
    intro ka hc hx
    simp only [clientView, respRecvHdr, huc, hc, Option.isSome_none, Bool.false_eq_true, if_false,
      respClose_connOf x ka _ _ huc hv]
    cases ka
    · rfl
    · rw [hx rfl]; rfl
  unfold serverKeeps
  rcases hshape with ⟨he, -, hte, hconn⟩ | ⟨-, -, hte, -, hconn⟩ | ⟨he, hwc, -, hxc, hwl, hrest⟩
  · rw [close _ hconn, Bool.not_not]
    intro _
    rw [hte, Bool.or_false]
    apply Bool.eq_false_iff.mpr
    intro hcond
    simp only [Bool.and_eq_true, Bool.not_eq_true', Option.isSome_eq_false_iff, Option.isNone_iff_eq_none] at hcond
    obtain ⟨⟨h11, hs⟩, hc⟩ := hcond
    refine hF11 ⟨?_, ?_, hs, hc⟩
    · exact hv.resolve_right fun hv => by rw [hv] at h11; cases h11
    · rw [mustBeEmptyBody_eq _ _ hnc, he, hs] at heb
      exact heb.symm
  · rw [close _ hconn, Bool.not_not]
    intro _; simp [hte]
  · rcases hrest with ⟨n, hn, hconn⟩ | ⟨hn, -, hconn, hfl⟩
    · have heb' : mustBeEmptyBody x.method x.status = false := heb ▸ he
      have hocl' : o.cl = some n := by
        rw [hocl, he, prep_cl_eq_contentLengthProp x p hpc heb' hxc, ← hwl, hn]; rfl
      rw [close _ hconn, Bool.not_not]
      intro _; simp [hocl']
    · have hk : o.keepAlive = false := by
        cases hfv : Gen.C02.closeDelimitedClearsKeepAlive
        · simpa [he, hwc, hn] using hF21 hfv
        · exact hfl hfv
      rw [close false hconn nofun, hk]; rfl

/-
Full statement (FALSE on the unchanged code, see `req_framing_disagree_chunked_false` and
`req_framing_disagree_chunked_true_without_body`): the same without `hF22`, `hF22b`.
-/
/-- **Framing agreement, request direction** (`_partial`): for every request `ClientRequest`
accepts — any version, method (except CONNECT), `data` of any kind
(none / sized / unsized payload, falsy or truthy), `chunked` ∈ {None, True}, any `compress`,
`expect100`, connector `force_close` — with framing headers left to aiohttp and an honest
payload size, the framing the server's parser derives from the emitted headers equals the
framing of the bytes the client's writer emits.  Excluded: `chunked=False` as long as `_create_writer` tests
`chunked is not None` (`hF22`, conditional on the flag probed from the source — with the
repaired code the theorem covers `chunked=False`), and `chunked=True` on a GET-class request
without data (`hF22b`), where the writer chunk-frames a body the headers do not announce.
Since 766fe91 a HEAD request's body is framed like any other (no HEAD hypothesis). -/
theorem req_framing_agree_partial (x : ReqIn) (actual : Nat) (v : ReqVerdict)
    (h : reqVerdict x actual = .ok v) (ha : ReqAdmissible x actual)
    (hF22 : Gen.C02.writerChunksWhenNotNone = true → x.chunked ≠ some false)
    (hF22b : ¬ (x.chunked = some true ∧ x.hasData = false ∧ isGetMethod x.method = true)) :
    v.wire = v.view.framing := by
  obtain ⟨hnc, htr, hnd, hsz, hucl, hute⟩ := ha
  obtain ⟨o, hp, rfl⟩ := reqVerdict_ok h
  obtain ⟨o', ho, rfl⟩ := reqPrep_ok hp
  clear hp
  dsimp only
  rw [serverView_framing _ _ _ hnc]
  unfold reqCore at ho
  rcases x with ⟨ver, method, hasData, dataTruthy, size, chunked, compress, expect100, userCL, userTE, userCE, userConn, userExpect, cfc, limited⟩
  simp only at *
  subst hucl hute
  generalize hg : isGetMethod method = g at *
  generalize he : (expect100 || userExpect) = e at *
  generalize hfl : Gen.C02.writerChunksWhenNotNone = fl at *
  split at ho
  · cases ho
  · rename_i comp ch h1
    -- `_update_content_encoding` turns chunking on (only for truthy data) or leaves `chunked` as given;
    -- so either the body is chunked, or the writer does not chunk it
    have hch : (ch = some true ∧ (hasData = false → chunked = some true)) ∨
        (truthy ch = false ∧ ¬ (fl = true ∧ ch.isSome = true)) := by
      have : ch = chunked ∨ (ch = some true ∧ dataTruthy = true) := by
        cases dataTruthy <;> cases userCE <;> cases compress <;> simp at h1 <;> simp [h1]
      rcases this with rfl | ⟨rfl, hdt⟩
      · rcases ch with _ | _ | _
        · exact Or.inr (by simp [truthy])
        · cases fl
          · exact Or.inr (by simp [truthy])
          · exact absurd rfl (hF22 rfl)
        · exact Or.inl ⟨rfl, fun _ => rfl⟩
      · exact Or.inl ⟨rfl, fun h => by rw [htr hdt] at h; cases h⟩
    clear h1 htr hF22
    rcases hch with ⟨hc, hd⟩ | ⟨ht, hw⟩
    · subst hc
      cases hasData
      · cases g
        · simp [truthy] at ho; subst ho; simp [writerFraming, reqRecvHdr]
        · exact absurd ⟨hd rfl, rfl, rfl⟩ hF22b
      · simp [truthy] at ho; subst ho; simp [writerFraming, reqRecvHdr]
    · cases hasData
      · have := hnd rfl
        subst this
        cases g <;> simp [ht] at ho <;> subst ho <;> simp [writerFraming, reqSent, reqRecvHdr, hw]
      · rcases size with _ | s <;> simp [ht, show truthy (some true) = true from rfl] at ho <;> subst ho <;>
          simp [writerFraming, reqSent, reqRecvHdr, hw]
        have := hsz s rfl
        subst this
        by_cases h0 : s = 0 <;> simp [h0] <;> omega

/-- **Invalid response configurations are refused, and only those.**  `prepare()` fails exactly
when (a) chunked encoding was enabled together with a Content-Length, (b) chunked encoding was
enabled for a request that is not HTTP/1.1, or (c) whole-body compression was requested for a
`web.Response` that has no body; in every other case it succeeds. -/
theorem resp_invalid_raise (x : RespIn) :
    (x.chunked = true → x.userCL.isSome = true → respPrep x = .error .chunkedWithCL) ∧
    (x.chunked = true → x.userCL = none → x.ver.is11 = false → respPrep x = .error .chunkedNot11) ∧
    ((∃ e, respPrep x = .error e) →
      (x.chunked = true ∧ x.userCL.isSome = true) ∨ (x.chunked = true ∧ x.ver.is11 = false) ∨
      (x.isResponse = true ∧ x.body = .none ∧ x.chunked = false ∧ startCompression x ≠ none)) := by
  refine ⟨fun h1 h2 => (respPrep_error x _).mpr (Or.inl ⟨rfl, h1, h2⟩),
    fun h1 h2 h3 => (respPrep_error x _).mpr (Or.inr (Or.inr ⟨rfl, h1, h2, h3⟩)), ?_⟩
  rintro ⟨e, he⟩
  rcases (respPrep_error x e).mp he with ⟨-, h⟩ | ⟨-, h1, h2, h3, c, hc, -⟩ | ⟨-, h1, -, h2⟩
  · exact Or.inl h
  · exact Or.inr (Or.inr ⟨h1, h3, h2, by simp [hc]⟩)
  · exact Or.inr (Or.inl ⟨h1, h2⟩)

/-- **Invalid request configurations are refused** by `ClientRequest.__init__`: `compress`
together with a Content-Encoding header, an unknown `compress` string, `chunked=True`
together with a `Transfer-Encoding: chunked` or a `Content-Length` header. -/
theorem req_invalid_raise (x : ReqIn) :
    (x.dataTruthy = true → x.userCE = true → x.compress ≠ .off → reqPrep x = .error .compressWithCE) ∧
    (x.dataTruthy = true → x.userCE = false → x.compress = .bad → reqPrep x = .error .compressBad) ∧
    (x.compress = .off → x.chunked = some true → x.hasData = true → x.userTEchunked = true →
      reqPrep x = .error .chunkedWithTE) ∧
    (x.compress = .off → x.chunked = some true → x.hasData = true → x.userTEchunked = false →
      x.userCL.isSome = true → reqPrep x = .error .chunkedWithCL) := by
  unfold reqPrep reqCore
  refine ⟨fun h1 h2 h3 => ?_, fun h1 h2 h3 => ?_, fun h1 h2 h3 h4 => ?_, fun h1 h2 h3 h4 h5 => ?_⟩
  · simp [h1, h2, h3]
  · simp [h1, h2, h3]
  · cases x.dataTruthy <;> cases x.userCE <;> simp [h1, h2, h3, h4, truthy]
  · cases x.dataTruthy <;> cases x.userCE <;> simp [h1, h2, h3, h4, h5, truthy]

/-- **The server reads the client's intention.**  Without an application-supplied `Connection`
header, on HTTP/1.0 and 1.1, `request.keep_alive` is false exactly when the client's connector
is in `force_close` mode (the header `_send` adds for the version makes the server's
`parse_message` reach that conclusion). -/
theorem req_keepalive_agree (x : ReqIn) (actual : Nat) (v : ReqVerdict)
    (h : reqVerdict x actual = .ok v) (huc : x.userConn = none)
    (hv : x.ver = ⟨1, 1⟩ ∨ x.ver = ⟨1, 0⟩) :
    v.serverClose = x.connForceClose := by
  obtain ⟨o, ho, rfl⟩ := reqVerdict_ok h
  obtain ⟨c, -, rfl⟩ := reqPrep_ok ho
  simp only [serverView, reqRecvHdr, reqConn, reqClose, huc, Option.isSome_none, Bool.false_eq_true, if_false]
  rcases hv with hv | hv <;> cases hc : x.connForceClose <;>
    simp [hv, Ver.is11, Ver.is10, Http.versionLe10]

/-- F11: `HEAD` on HTTP/1.1 answered by an empty `web.Response()`: no Content-Length /
Transfer-Encoding is sent; the server keeps the connection, the client closes it. -/
theorem keepalive_disagree_head_without_framing_headers :
    ∃ v, respVerdict { ver := ⟨1, 1⟩, method := bHEAD, status := 200, isResponse := true } 0 = .ok v ∧
      v.out.cl = none ∧ v.out.te = false ∧ serverKeeps v.out = true ∧ v.clientClose = true := by
  refine ⟨_, rfl, ?_⟩
  decide +kernel

/-- HTTP/1.0 keep-alive request answered by a `StreamResponse` without Content-Length: the body
is delimited by the end of the connection (client reads until close, writer has neither length
nor chunking) but `resp.keep_alive` stays true — the server never closes, the response never ends. -/
theorem keepalive_disagree_http10_close_delimited (_hfl : Gen.C02.closeDelimitedClearsKeepAlive = false) :
    ∃ v, respVerdict { ver := ⟨1, 0⟩, method := ascii "GET", status := 200, isResponse := false } 3 = .ok v ∧
      v.view.framing = .untilClose ∧ v.wire = .untilClose ∧ serverKeeps v.out = true ∧ v.clientClose = true := by
  -- holds whatever the probed flag is: vacuous once a close-delimited response clears `keep_alive`
  first
    | (refine ⟨_, rfl, ?_⟩; decide +kernel)
    | exact absurd _hfl (by decide)

/-- a compressing writer on a response that must be empty (`HEAD` answered by
`web.Response(body=<payload>)` with `enable_compression()`): the compressor's trailer
(`streamed` = 8 bytes) follows the head, while the client expects no body byte. -/
theorem resp_framing_disagree_compress_on_bodiless :
    ∃ v, respVerdict { ver := ⟨1, 1⟩, method := bHEAD, status := 200, isResponse := true, body := .payload (some 5),
                       compression := true, force := some .deflate } 8 = .ok v ∧
      v.out.emptyBody = true ∧ v.out.wcompress = true ∧ v.view.framing = .none ∧ v.wire = .untilClose := by
  refine ⟨_, rfl, ?_⟩
  decide +kernel

/-- `session.post(url, data=b"abc", chunked=False)` while `_create_writer` enables chunking
whenever `chunked is not None` (flag probed from the source; repaired by 5a429f0, after which
`req_framing_agree_partial` covers `chunked=False`): the headers announce `Content-Length: 3`,
the writer chunk-frames the body. -/
theorem req_framing_disagree_chunked_false (hfl : Gen.C02.writerChunksWhenNotNone = true) :
    ∃ v, reqVerdict { ver := ⟨1, 1⟩, method := ascii "POST", hasData := true, dataTruthy := true, size := some 3,
                      chunked := some false } 3 = .ok v ∧
      v.out.cl = some 3 ∧ v.out.te = false ∧ v.view.framing = .length 3 ∧ v.wire = .chunked := by
  -- holds whatever the probed flag is: vacuous once `_create_writer` tests `if self.chunked`
  first
    | exact absurd hfl (by decide)
    | (refine ⟨_, rfl, ?_⟩; decide +kernel)

/-- `session.get(url, chunked=True)` without data: no Transfer-Encoding header is sent, yet the
writer emits the chunked terminator `0\r\n\r\n` after the head. -/
theorem req_framing_disagree_chunked_true_without_body :
    ∃ v, reqVerdict { ver := ⟨1, 1⟩, method := ascii "GET", hasData := false, dataTruthy := false,
                      chunked := some true } 0 = .ok v ∧
      v.out.te = false ∧ v.view.framing = .none ∧ v.wire = .chunked := by
  refine ⟨_, rfl, ?_⟩
  decide +kernel

/-- **Identity coding, receive side, all segmentations.**  A payload parser set up for
`Content-Length: n` (`n > 0`), fed the bytes of the connection in *any* segmentation (one
`feed_data` call per segment, empty segments allowed): once `n` bytes have arrived it has
delivered exactly the first `n` bytes, reports the body complete and hands every later byte on
to the next message; before that it has delivered everything so far and is not complete. -/
theorem length_body_segments (cfg : Http.Cfg) (segs : List Bytes) (p : Http.PState) (n : Nat)
    (ht : p.type = .length) (hl : p.length = n) (hn : 0 < n) :
    payloadRun cfg p segs [] =
      if n ≤ segs.flatten.length then (segs.flatten.take n, some (segs.flatten.drop n))
      else (segs.flatten, none) := by
  simpa using length_run cfg segs p n [] ht hl hn

/-- **Close-delimited body, all segmentations**: everything that arrives is delivered, the
parser never reports the body complete (only the end of the connection does). -/
theorem untilClose_body_segments (cfg : Http.Cfg) (segs : List Bytes) (p : Http.PState)
    (ht : p.type = .untilEof) :
    payloadRun cfg p segs [] = (segs.flatten, none) := by
  simpa using untilClose_run cfg segs p [] ht

theorem flushed_mkWriter (wlength : Option Nat) (wchunked : Bool) (hb : Bytes) (hhb : hb ≠ []) :
    C04.flushed (mkWriter wlength wchunked hb) = hb := by
  cases hb with
  | nil => exact absurd rfl hhb
  | cons a t => simp [C04.flushed, C04.pendingHeaders, mkWriter]

theorem mkWriter_chunkedReady (hb : Bytes) (hhb : hb ≠ []) : C04.ChunkedReady (mkWriter none true hb) :=
  ⟨rfl, rfl, rfl, rfl, rfl, Or.inr ⟨hb, rfl, hhb, rfl⟩⟩

/-- **Round trip of a length-framed body** (composition of C04 `length_truthful` with the
receive side): the writer as `_prepare_headers` leaves it with `length = n`, any program of
`write`/`send_headers` calls offering at least `n` bytes; the bytes after the header block, cut
into any segments and followed by anything (`rest`, e.g. the next response), give the
receiver's `Content-Length: n` parser exactly the first `n` bytes written and leave `rest`
for the next message. -/
theorem response_roundtrip_length (cfg : Http.Cfg) (hb : Bytes) (n : Nat) (ops : List C04.BodyOp)
    (hhb : hb ≠ []) (hn : 0 < n) (hdata : n ≤ ((ops.map C04.BodyOp.data).flatten).length) :
    let r := C04.run (mkWriter (some n) false hb) (ops.map C04.BodyOp.toOp)
    ∃ body, C04.flushed r.1 = hb ++ body ∧ (∀ e ∈ r.2, e = none) ∧
      ∀ (segs : List Bytes) (rest : Bytes) (p : Http.PState), segs.flatten = body ++ rest →
        p.type = .length → p.length = n →
        payloadRun cfg p segs [] = (((ops.map C04.BodyOp.data).flatten).take n, some rest) := by
  intro r
  obtain ⟨h1, h2, _⟩ := C04.length_truthful (mkWriter (some n) false hb) n
    ⟨rfl, rfl, rfl, rfl, Or.inr ⟨hb, rfl, hhb, rfl⟩⟩ ops
  rw [flushed_mkWriter _ _ _ hhb] at h2
  refine ⟨_, h2, h1, fun segs rest p hs ht hl => ?_⟩
  have hlen : (((ops.map C04.BodyOp.data).flatten).take n).length = n := by
    rw [List.length_take]; omega
  rw [length_body_segments cfg segs p n ht hl hn, hs, if_pos (by rw [List.length_append, hlen]; omega)]
  simp [hlen]

/-
Full statement, with the receiver's `Aio.Http.payloadFeed` in place of the reference decoder:
`response_roundtrip_chunked` in `AioProps/C02Chunked.lean`.
-/
/-- **Round trip of a chunked body** (`_partial`; composition of C04 `chunked_roundtrip` with the
decision layer): the writer as `_prepare_headers` leaves it in chunked mode, any program of
`write`/`send_headers` calls ended by `write_eof(d)` / `set_eof()`: the bytes after the header
block decode, by the strict RFC 9112 chunked reading, to exactly the written data with nothing
left over — and by `resp_framing_agree` the client expects a chunked body exactly then. -/
theorem response_roundtrip_chunked_partial (hb : Bytes) (ops : List C04.BodyOp) (fin : Option Bytes)
    (hhb : hb ≠ []) :
    let r := C04.run (mkWriter none true hb) (ops.map C04.BodyOp.toOp ++ [C04.finOp fin])
    ∃ body, r.1.out = hb ++ body ∧ r.1.eof = true ∧ (∀ e ∈ r.2, e = none) ∧
      C04.decodeChunked (body.length + 1) body = some ((ops.map C04.BodyOp.data).flatten ++ fin.getD [], []) := by
  intro r
  have := C04.chunked_roundtrip _ (mkWriter_chunkedReady hb hhb) ops fin
  rwa [flushed_mkWriter _ _ _ hhb] at this

/-- the hypotheses of `resp_framing_agree` / `keepalive_agree_partial` hold for a plain
`web.Response(body=b"hello")` answering a GET on HTTP/1.1 -/
example : RespAdmissible { ver := ⟨1, 1⟩, method := ascii "GET", status := 200, isResponse := true, body := .bytes 5 } 0 :=
  ⟨(by decide), (fun n h => by cases h), (fun s _ h => by cases h), (fun h => by revert h; decide), (fun h => absurd rfl h)⟩

example : ∃ v, respVerdict { ver := ⟨1, 1⟩, method := ascii "GET", status := 200, isResponse := true, body := .bytes 5 } 0 = .ok v ∧
    v.wire = .length 5 ∧ v.view.framing = .length 5 ∧ serverKeeps v.out = true ∧ v.clientClose = false :=
  ⟨_, rfl, by decide +kernel⟩

/-- and those of `req_framing_agree_partial` for `session.post(url, data=b"abc")` -/
example : ReqAdmissible { ver := ⟨1, 1⟩, method := ascii "POST", hasData := true, dataTruthy := true, size := some 3 } 3 :=
  ⟨(by decide), (fun _ => rfl), (fun h => by cases h), (fun s h => by cases h; rfl), rfl, rfl⟩

example : ∃ v, reqVerdict { ver := ⟨1, 1⟩, method := ascii "POST", hasData := true, dataTruthy := true, size := some 3 } 3 = .ok v ∧
    v.wire = .length 3 ∧ v.view.framing = .length 3 :=
  ⟨_, rfl, by decide +kernel⟩

/-- **A failed upload stays visibly incomplete.**  Whenever the body source did not finish
(it raised, or the writer task was cancelled) `_write_bytes` does not call `write_eof()` — so a
chunked body gets no terminating `0\r\n\r\n` and, by C04 `no_premature_terminator`, the wire
holds only complete data chunks: the server cannot take the prefix for the whole body — and the
request fails for the caller or the connection is closed.  Only a completely written body is
terminated. -/
theorem failed_source_no_terminator (o : SrcOutcome) :
    ((writeBytesEnd o).writesEof = true ↔ o = .ok) ∧
    (o ≠ .ok → (writeBytesEnd o).failsRequest = true ∨ (writeBytesEnd o).closesConn = true) := by
  cases o <;> simp [writeBytesEnd]

/-- **A body cut off by the end of the connection is never reported complete.**  When
`connection_lost` / `feed_eof` reaches the parser while a payload is in progress: a chunked
body — *wherever* it stands, also exactly on a chunk boundary or inside the trailer section,
whatever was buffered — is always an error (`TransferEncodingError`; only the terminating
last-chunk + blank line, which removes the payload parser, ends a chunked body); a
`Content-Length` body is an error as long as bytes are outstanding; only a close-delimited
body ends (normally) there. -/
theorem eof_inside_body (cfg : Http.Cfg) (urlOk : Bool → Bytes → Bool) (st : Http.St) (p : Http.PState)
    (hf : st.failed = false) (hp : st.payload = some p) :
    (p.type = .chunked → Http.feedEof cfg urlOk st = ([], some .transferEncoding)) ∧
    (p.type = .length → p.length ≠ 0 → Http.feedEof cfg urlOk st = ([], some .contentLength)) ∧
    (p.type = .untilEof → Http.feedEof cfg urlOk st = ([.eof], none)) := by
  unfold Http.feedEof
  simp only [hf, hp, Bool.false_eq_true, if_false]
  refine ⟨?_, ?_, ?_⟩
  · intro h; simp [h]
  · intro h hn; simp [h, hn]
  · intro h; simp [h]

end Aio.C02
