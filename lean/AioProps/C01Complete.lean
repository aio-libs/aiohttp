import AioProps.C01Lemmas
/-!
# C01, the other direction: a strict reading is accepted

`accepted_request_is_strict` says that what the parser accepts is a strict RFC 9112 reading.
Here the converse for the strict (server-side) parser: every strict reading — strict request line,
strict field lines, no singleton field twice — whose framing headers are consistent
(`interpretHeaders` succeeds: no Content-Length with Transfer-Encoding, a valid Transfer-Encoding),
whose target yarl accepts and which carries Host on HTTP/1.1 is accepted, and the message
delivered is that reading.  Together: accepted ⇔ strict reading ∧ those side conditions.
-/
namespace Aio.Http
open Aio

theorem cut1_prefix (c : UInt8) (k rest : Bytes) (h : c ∉ k) : cut1 c (k ++ c :: rest) = some (k, rest) := by
  induction k with
  | nil => simp [cut1]
  | cons b t ih =>
    have hb : b ≠ c := fun e => h (e ▸ List.mem_cons_self)
    simp [cut1, hb, ih fun e => h (List.mem_cons_of_mem _ e)]

theorem lstrip_append (p : UInt8 → Bool) (l x : Bytes) (hl : l.all p = true)
    (hx : ∀ b, x.head? = some b → p b = false) : lstrip p (l ++ x) = x := by
  induction l with
  | nil => cases x with
    | nil => rfl
    | cons b t => simp [lstrip, hx b rfl]
  | cons b t ih =>
    simp only [List.all_cons, Bool.and_eq_true] at hl
    simp [lstrip, hl.1, ih hl.2]

theorem rstrip_append (p : UInt8 → Bool) (x r : Bytes) (hr : r.all p = true)
    (hx : ∀ b, x.getLast? = some b → p b = false) : rstrip p (x ++ r) = x := by
  unfold rstrip
  rw [List.reverse_append, lstrip_append p r.reverse x.reverse (by simpa using hr)
    (fun b hb => hx b (by simpa [List.head?_reverse] using hb)), List.reverse_reverse]

theorem value_extracted (l v r : Bytes) (hl : l.all isOWS = true) (hr : r.all isOWS = true)
    (hh : ∀ b, v.head? = some b → isOWS b = false) (ht : ∀ b, v.getLast? = some b → isOWS b = false) :
    strip isOWS (lstrip isOWS (l ++ v ++ r)) = v := by
  cases v with
  | nil =>
    have := lstrip_append isOWS (l ++ r) [] (by simp [hl, hr]) nofun
    rw [List.append_nil] at this
    rw [List.append_nil, this]
    rfl
  | cons b t =>
    have e : lstrip isOWS (b :: t ++ r) = b :: t ++ r := lstrip_append isOWS [] _ rfl (fun _ h => by cases h; exact hh b rfl)
    rw [List.append_assoc, lstrip_append isOWS l _ hl (fun _ h => by cases h; exact hh b rfl), strip, e,
      rstrip_append isOWS _ r hr ht]

theorem token_bytes {k : Bytes} (h : isToken k = true) {b : UInt8} (hb : b ∈ k) :
    b ≠ 58 ∧ b ≠ 32 ∧ isOWS b = false := by
  have ht := tchar_table b (((isToken_iff k).mp h).2 b hb)
  have h32 : b ≠ 32 := fun e => Nat.not_succ_le_self 32 (show 33 ≤ (32 : UInt8).toNat from e ▸ ht.1)
  have h9 : b ≠ 9 := fun e => absurd (show 33 ≤ (9 : UInt8).toNat from e ▸ ht.1) (show ¬33 ≤ 9 by omega)
  exact ⟨ht.2.2.2.2.2.2.2.1, h32, by simp [isOWS, h32, h9]⟩

theorem parseHeaderLines_cons_strict {mf fuel : Nat} {line k v : Bytes} {rest : List Bytes} {acc : List (Bytes × Bytes)}
    (hf : StrictField line k v) (hdup : ¬(hasName acc (lower k) = true ∧ isSingleton (lower k) = true)) :
    parseHeaderLines false mf (fuel + 1) (line :: rest) acc = parseHeaderLines false mf fuel rest ((k, v) :: acc) := by
  obtain ⟨htok, ⟨l, r, rfl, hlo, hro⟩, hvf, hh, ht⟩ := hf
  have hne := ((isToken_iff k).mp htok).1
  have ecut : cut1 58 (k ++ [58] ++ l ++ v ++ r) = some (k, l ++ (v ++ r)) := by
    have := cut1_prefix 58 k (l ++ (v ++ r)) fun hm => (token_bytes htok hm).1 rfl
    simpa using this
  have hke : k.isEmpty = false := List.isEmpty_eq_false_iff.mpr hne
  have hle : (k ++ [58] ++ l ++ v ++ r).isEmpty = false := by
    cases k with
    | nil => exact absurd rfl hne
    | cons _ _ => rfl
  have hends : (isOWS k.head! || isOWS k.getLast!) = false := by
    rw [List.head!_of_head? (List.head?_eq_some_head hne), List.getLast!_of_getLast? (List.getLast?_eq_some_getLast hne),
      (token_bytes htok (List.head_mem hne)).2.2, (token_bytes htok (List.getLast_mem hne)).2.2]
    rfl
  have hval : strip isOWS (lstrip isOWS (l ++ (v ++ r))) = v := by
    simpa using value_extracted l v r hlo hro hh ht
  have hdup' : (hasName acc (lower k) && isSingleton (lower k)) = false := by simpa using hdup
  rw [parseHeaderLines]
  simp only [hle, ecut, hke, hends, htok, hval, hvf, hdup', Bool.false_eq_true, if_false, Bool.not_true, Bool.not_false,
    Bool.true_and, List.isEmpty_nil, if_true]

/-- **strict field lines are accepted**, and the header list delivered is their reading -/
theorem parseHeaderLines_complete (mf : Nat) :
    ∀ (fuel : Nat) (lines : List Bytes) (acc hs : List (Bytes × Bytes)),
      lines.length < fuel → FieldsOf lines hs → NoSingletonDup (acc.reverse ++ hs) →
      parseHeaderLines false mf fuel lines acc = .ok (acc.reverse ++ hs) := by
  intro fuel
  induction fuel with
  | zero => intro lines acc hs h; omega
  | succ n ih =>
    intro lines acc hs hlen hf hnd
    cases lines with
    | nil => cases hf; rw [parseHeaderLines, List.append_nil]
    | cons line rest =>
      by_cases hl : line = []
      · subst hl
        cases (by simpa [FieldsOf] using hf : hs = [])
        rw [parseHeaderLines, List.append_nil]
        rfl
      · simp only [FieldsOf, hl, if_false] at hf
        obtain ⟨k, v, hs', rfl, hsf, hrest⟩ := hf
        have hdup : ¬(hasName acc (lower k) = true ∧ isSingleton (lower k) = true) := fun ⟨hn, hs⟩ => by
          have hpos := List.length_pos_iff.mpr ((hasName_iff _ _).mp hn)
          have := hnd (lower k) hs
          simp only [List.filter_append, List.filter_reverse, List.length_append, List.length_reverse, List.filter_cons,
            beq_self_eq_true, if_true, List.length_cons] at this
          omega
        rw [parseHeaderLines_cons_strict hsf hdup]
        simpa using ih rest ((k, v) :: acc) hs' (Nat.lt_of_succ_lt_succ hlen) hrest (by simpa using hnd)

theorem parseHeaders_complete (mf : Nat) (lines : List Bytes) (hs : List (Bytes × Bytes))
    (hf : FieldsOf lines hs) (hnd : NoSingletonDup hs) : parseHeaders false mf lines = .ok hs :=
  parseHeaderLines_complete mf (lines.length + 1) lines [] hs (Nat.lt_succ_self _) hf hnd

theorem splitRequestLine_complete (m target v : Bytes) (hm : isToken m = true)
    (ht : target.any targetForbidden = false) :
    splitRequestLine (m ++ [32] ++ target ++ [32] ++ v) = some (m, target, v) := by
  have ht32 : (32 : UInt8) ∉ target := fun hmem =>
    List.any_eq_false.mp ht 32 hmem (targetForbidden_table 32 (.inl (Nat.le_refl 32)))
  have e : m ++ [32] ++ target ++ [32] ++ v = m ++ 32 :: (target ++ 32 :: v) := by simp
  unfold splitRequestLine
  rw [e, cut1_prefix 32 m _ fun hmem => (token_bytes hm hmem).2.1 rfl]
  simp only []
  rw [cut1_prefix 32 target v ht32]

/-- **A strict reading is accepted** (strict parser): strict request line, strict field lines
with no singleton field twice, a target yarl accepts, consistent framing headers and — on
HTTP/1.1 — a Host field: the parser accepts, and the message is exactly that reading. -/
theorem strict_request_is_accepted (cfg : Cfg) (hstrict : cfg.lax = false) (urlOk : Bool → Bytes → Bool)
    (line : Bytes) (rest : List Bytes) (method target : Bytes) (vmaj vmin : Nat) (hs : List (Bytes × Bytes))
    (info : HdrInfo)
    (hline : StrictRequestLine line method target vmaj vmin) (hfields : FieldsOf rest hs) (hnd : NoSingletonDup hs)
    (hurl : ((method == bCONNECT) || !(target == [42] && method == bOPTIONS)) = true → urlOk (method == bCONNECT) target = true)
    (hinfo : interpretHeaders cfg hs = .ok info)
    (hhost : vmaj = 1 ∧ vmin = 1 → hasName hs bHost = true) :
    ∃ msg, parseRequest cfg urlOk (line :: rest) = .ok msg ∧ msg.method = method ∧ msg.path = target ∧
      msg.vmajor = vmaj ∧ msg.vminor = vmin ∧ msg.headers = hs := by
  obtain ⟨m, v, rfl, hm, rfl, htf, hver⟩ := hline
  have hnohost : (vmaj == 1 && vmin == 1 && !hasName hs bHost) = false := by
    simpa using fun h1 h2 => hhost ⟨h1, h2⟩
  have horacle : (((upper m == bCONNECT) || !(target == [42] && upper m == bOPTIONS)) &&
      !urlOk (upper m == bCONNECT) target) = false := by
    cases hor : ((upper m == bCONNECT) || !(target == [42] && upper m == bOPTIONS))
    · rfl
    · rw [hurl hor]; rfl
  unfold parseRequest
  simp only [splitRequestLine_complete m target v hm htf, hm, hver, htf, horacle, hstrict,
    parseHeaders_complete cfg.maxField rest hs hfields hnd, hinfo, hnohost, Bool.not_true, Bool.false_eq_true, if_false]
  exact ⟨_, rfl, rfl, rfl, rfl, rfl, rfl⟩

/-- Non-vacuity: `GET / HTTP/1.1`, `Host: a` — a strict reading meeting every hypothesis — is
accepted with exactly that reading. -/
example : (match parseRequest {} (fun _ _ => true) [[71, 69, 84, 32, 47, 32, 72, 84, 84, 80, 47, 49, 46, 49],
    [72, 111, 115, 116, 58, 32, 97], []] with
    | .ok msg => msg.method == [71, 69, 84] && msg.path == [47] && msg.headers == [([72, 111, 115, 116], [97])]
    | .error _ => false) = true := by
  decide +kernel

end Aio.Http
