import AioProps.C17Lemmas
/-!
# C17 — property theorems (redirects confine credentials and terminate)

Model: `AioModel/C17.lean` (= the redirect loop of `aiohttp/client.py: ClientSession._request`
with `ClientRequest` header construction).  Every statement quantifies over **all** chains of
scripted responses (any length, any statuses, any `Location` outcomes, any origins), all
caller inputs, all cookie jars / netrc tables / cookie parsers (`Env`) and all configurations.

Vocabulary: `(run …).sent` is the list of requests put on the wire, in order; request `k`
has `idx = k`; a header / cookie pair carries the provenances of its value (`Prov`), whose
`birth` is the hop at which the value entered the loop (`caller` = 0, `url h` = the URL
requested at hop `h` carried it as userinfo, `netrc h`, `jar h` = looked up at hop `h`).
-/
namespace Aio.C17
open Aio

/-- the run of `ClientSession._request` for the given caller inputs -/
abbrev request (env : Env) (cfg : Cfg) (url : Url) (params : Option Str) (method : Str)
    (defaults headers : List (Str × Str)) (cookies : Option (List (Str × Str))) (data : Option Body)
    (jar0 : env.jar.σ) (chain : List Resp) : Result :=
  run env cfg (init env url params method defaults headers cookies data jar0) chain

/-- **Secrets are confined to the origin they were supplied for.**  Whenever a request `sk` of
the chain carries an `Authorization`, `Cookie` or `Proxy-Authorization` header, every value in
it entered the loop at some hop `b ≤ k` (the caller's at hop 0, URL-embedded credentials at the
hop whose URL carried them, jar / netrc values at the hop that looked them up) and **every**
request from hop `b` up to `sk` went to the same origin as `sk`.  So nothing supplied for one
origin is ever sent to another, whatever the statuses, `Location` forms and origin changes. -/
theorem secrets_confined (env : Env) (cfg : Cfg) (url : Url) (params : Option Str) (method : Str)
    (defaults headers : List (Str × Str)) (cookies : Option (List (Str × Str))) (data : Option Body)
    (jar0 : env.jar.σ) (chain : List Resp) :
    let sent := (request env cfg url params method defaults headers cookies data jar0 chain).sent
    ∀ sk ∈ sent, ∀ hd ∈ sk.headers, isSecretName hd.name = true → ∀ p ∈ hd.provs,
      p.birth ≤ sk.idx ∧
      ∀ sj ∈ sent, p.birth ≤ sj.idx → sj.idx ≤ sk.idx → sj.url.origin = sk.url.origin := by
  intro sent sk hk hd hhd hsec p hp
  have ⟨hok, hstreak⟩ := run_trace (cfg := cfg) chain _ (init_inv env url params method defaults headers cookies data jar0)
  exact hstreak.confined hk ((hok sk hk).wire hd hhd hsec p hp)

/-- The same for the individual pairs of a merged `Cookie` header (per-request cookies are
tagged `caller`, jar cookies `jar k`). -/
theorem cookie_pairs_confined (env : Env) (cfg : Cfg) (url : Url) (params : Option Str) (method : Str)
    (defaults headers : List (Str × Str)) (cookies : Option (List (Str × Str))) (data : Option Body)
    (jar0 : env.jar.σ) (chain : List Resp) :
    let sent := (request env cfg url params method defaults headers cookies data jar0 chain).sent
    ∀ sk ∈ sent, ∀ c ∈ sk.cookiePairs, ∀ p ∈ c.provs,
      p.birth ≤ sk.idx ∧
      ∀ sj ∈ sent, p.birth ≤ sj.idx → sj.idx ≤ sk.idx → sj.url.origin = sk.url.origin := by
  intro sent sk hk c hc p hp
  have ⟨hok, hstreak⟩ := run_trace (cfg := cfg) chain _ (init_inv env url params method defaults headers cookies data jar0)
  exact hstreak.confined hk ((hok sk hk).pairs c hc p hp)

/-- **Caller-supplied secrets never leave the first origin, and A→B→A does not resurrect them.**
If a request carries a secret header value supplied by the caller (`headers=`, session default
headers, `cookies=`), then that request *and every request before it* went to the origin of the
very first request. -/
theorem caller_secret_never_leaves_first_origin (env : Env) (cfg : Cfg) (url : Url) (params : Option Str)
    (method : Str) (defaults headers : List (Str × Str)) (cookies : Option (List (Str × Str)))
    (data : Option Body) (jar0 : env.jar.σ) (chain : List Resp) :
    let sent := (request env cfg url params method defaults headers cookies data jar0 chain).sent
    ∀ sk ∈ sent, ∀ hd ∈ sk.headers, isSecretName hd.name = true → Prov.caller ∈ hd.provs →
      ∀ sj ∈ sent, sj.idx ≤ sk.idx → sj.url.origin = sk.url.origin := by
  intro sent sk hk hd hhd hsec hp sj hj hle
  exact (secrets_confined env cfg url params method defaults headers cookies data jar0 chain sk hk hd hhd hsec _ hp).2
    sj hj (Nat.zero_le _) hle

/-- **No resurrection**, stated contrapositively: once some request `sj` went to an origin other
than a later request `sk`'s, `sk` carries no caller-supplied secret and no credential that was
embedded in a URL requested at or before `sj`. -/
theorem no_resurrection (env : Env) (cfg : Cfg) (url : Url) (params : Option Str)
    (method : Str) (defaults headers : List (Str × Str)) (cookies : Option (List (Str × Str)))
    (data : Option Body) (jar0 : env.jar.σ) (chain : List Resp) :
    let sent := (request env cfg url params method defaults headers cookies data jar0 chain).sent
    ∀ sj ∈ sent, ∀ sk ∈ sent, sj.idx ≤ sk.idx → sj.url.origin ≠ sk.url.origin →
      ∀ hd ∈ sk.headers, isSecretName hd.name = true → ∀ p ∈ hd.provs, sj.idx < p.birth := by
  intro sent sj hj sk hk hle hne hd hhd hsec p hp
  have h := (secrets_confined env cfg url params method defaults headers cookies data jar0 chain sk hk hd hhd hsec p hp).2
  by_cases hb : p.birth ≤ sj.idx
  · exact absurd (h sj hj hb hle) hne
  · omega

/-- **Jar cookies are re-selected for each hop.**  For request `k`: (a) the jar selection
offered to it is `filter_cookies(url_k)` evaluated on the jar *as updated by the responses to
requests 0 … k-1* (so a `Set-Cookie` of an earlier hop is seen, and nothing is carried over
from a selection made for another URL); (b) every jar-provenance cookie pair actually sent in
its `Cookie` header was selected at hop `k` itself - a pair selected at an earlier hop is never
re-sent. -/
theorem jar_reselected_each_hop (env : Env) (cfg : Cfg) (url : Url) (params : Option Str) (method : Str)
    (defaults headers : List (Str × Str)) (cookies : Option (List (Str × Str))) (data : Option Body)
    (jar0 : env.jar.σ) (chain : List Resp) :
    let sent := (request env cfg url params method defaults headers cookies data jar0 chain).sent
    ∀ k sk, sent[k]? = some sk →
      sk.jarSel = env.jar.filter (jarAfter env jar0 (sent.take k) (chain.take k)) sk.url ∧
      ∀ c ∈ sk.cookiePairs, ∀ p ∈ c.provs, ∀ h, p = Prov.jar h → h = sk.idx := by
  intro sent k sk hk
  have hinv := init_inv env url params method defaults headers cookies data jar0
  exact ⟨run_jar (cfg := cfg) chain _ hinv k sk hk,
    ((run_trace (cfg := cfg) chain _ hinv).ok sk (List.mem_of_getElem? hk)).jarTag⟩

/- Full statement of the table (`method_body_table_partial` below proves
   everything except the byte equality of the two wire bodies, which additionally needs that
   the *effective* Content-Length header is the same at both hops - a fact about header
   bookkeeping in `ClientRequest` that is only covered by the correspondence run):

   theorem method_body_table : ∀ k sj sk r, sent[k]? = some sj → sent[k+1]? = some sk → chain[k]? = some r →
     if toGet r.status sj.method then sk.method = GET ∧ sk.body = []
     else sk.method = sj.method ∧ sk.body = sj.body
-/

/-- **The method and body are transformed per the table.**  For consecutive requests `k`, `k+1`
and the response `r` in between: if `r` is 303 and the method is not HEAD, or `r` is 301/302
and the method is POST (`toGet`), request `k+1` is a `GET` with no payload and an empty wire
body; otherwise it has the same method and *the same payload object* (`_EMPTY_BODY` if there
was none), not yet consumed, replayed from its start: its wire body is that payload's bytes,
cut only by a `Content-Length` header of request `k+1` itself. -/
theorem method_body_table_partial (env : Env) (cfg : Cfg) (url : Url) (params : Option Str) (method : Str)
    (defaults headers : List (Str × Str)) (cookies : Option (List (Str × Str))) (data : Option Body)
    (jar0 : env.jar.σ) (chain : List Resp) :
    let sent := (request env cfg url params method defaults headers cookies data jar0 chain).sent
    ∀ k sk, sent[k + 1]? = some sk → ∃ sj r, sent[k]? = some sj ∧ chain[k]? = some r ∧
      (toGet r.status sj.method = true → sk.method = GET ∧ sk.data = none ∧ sk.body = []) ∧
      (toGet r.status sj.method = false → sk.method = sj.method ∧ sk.data = some (sj.data.getD emptyBody) ∧
        wireBody (some (sj.data.getD emptyBody)) false sk.headers = .ok sk.body) := by
  intro sent k sk hk
  have hinv := init_inv env url params method defaults headers cookies data jar0
  obtain ⟨sj, r, hj, hr, hf, -⟩ := (run_follow (cfg := cfg) chain _ hinv).2 k sk hk
  have hm := hf.method
  have hd := hf.data
  have hb := hf.body
  refine ⟨sj, r, hj, hr, fun hg => ?_, fun hg => ?_⟩
  · rw [hg] at hm hd
    rw [hd] at hb
    exact ⟨hm, hd, Except.ok.inj hb.symm⟩
  · rw [hg] at hm hd
    rw [hd] at hb
    exact ⟨hm, hd, hb⟩

/-- **At most `max_redirects` requests are made** (for `max_redirects ≥ 1`; see
`zero_max_redirects_is_unlimited` for 0). -/
theorem at_most_max_redirects_requests (env : Env) (cfg : Cfg) (url : Url) (params : Option Str) (method : Str)
    (defaults headers : List (Str × Str)) (cookies : Option (List (Str × Str))) (data : Option Body)
    (jar0 : env.jar.σ) (chain : List Resp) (hmax : cfg.maxRedirects ≠ 0) :
    (request env cfg url params method defaults headers cookies data jar0 chain).sent.length ≤ cfg.maxRedirects := by
  have := runF_count hmax (chain.map Reply.resp) _ (init_inv env url params method defaults headers cookies data jar0)
    (Nat.pos_of_ne_zero hmax)
  rw [runF_resp_eq_run] at this
  exact this

/-- a trivial environment (empty jar, no netrc) for the concrete statements below -/
def env0 : Env :=
  { jar := { σ := Unit, filter := fun _ _ => [], update := fun _ _ _ => () }
    reqSel := fun _ _ _ => [], netrc := fun _ => none, parseCookie := fun _ => [] }
def url0 : Url := { origin := ⟨0, S "a.test", 80, 0⟩, hostHdr := S "a.test", target := S "/" }

/-- the hypothesis of `at_most_max_redirects_requests` is satisfiable and the bound is tight:
`max_redirects = 2`, two redirects: exactly 2 requests, then `TooManyRedirects`. -/
example :
    let res := request env0 { maxRedirects := 2 } url0 none GET [] [] none none ()
      [⟨302, .ok url0, 0⟩, ⟨302, .ok url0, 0⟩, ⟨200, .none, 0⟩]
    res.sent.length = 2 ∧ res.out = .err .tooManyRedirects := by decide +kernel

/-- **`max_redirects = 0` means unlimited in the code** (`if max_redirects and …`): 25 redirects
are all followed (26 requests), where the default 10 would have stopped at 10. -/
theorem zero_max_redirects_is_unlimited :
    (request env0 { maxRedirects := 0 } url0 none GET [] [] none none ()
      (List.replicate 25 ⟨302, .ok url0, 0⟩ ++ [⟨200, .none, 0⟩])).sent.length = 26 := by decide +kernel

/-- **Only well-formed http(s) redirects are followed.**  Every request after the first was
caused by a response with a redirect status (and `allow_redirects`) whose `Location` resolved
to an absolute http(s) URL with a valid origin, and it goes to exactly that URL (credentials
moved into `Authorization`). -/
theorem only_http_redirects_followed (env : Env) (cfg : Cfg) (url : Url) (params : Option Str) (method : Str)
    (defaults headers : List (Str × Str)) (cookies : Option (List (Str × Str))) (data : Option Body)
    (jar0 : env.jar.σ) (chain : List Resp) :
    let sent := (request env cfg url params method defaults headers cookies data jar0 chain).sent
    ∀ k sk, sent[k + 1]? = some sk → ∃ r u, chain[k]? = some r ∧ r.loc = .ok u ∧
      isRedirect r.status = true ∧ cfg.allowRedirects = true ∧ sk.url = { u with cred := none } ∧ sk.idx = k + 1 := by
  intro sent k sk hk
  have hinv := init_inv env url params method defaults headers cookies data jar0
  obtain ⟨sj, r, -, hr, hf, hidx⟩ := (run_follow (cfg := cfg) chain _ hinv).2 k sk hk
  obtain ⟨u, hu, hurl⟩ := hf.url
  exact ⟨r, u, hr, hu, hf.redirect.1, hf.redirect.2, hurl, hidx⟩

/-- **Non-HTTP targets are refused** (and so are unparsable ones, host-less ones and a missing
`Location`): if response `k` does not carry a well-formed http(s) target, no request `k+1` is
ever made. -/
theorem non_http_refused (env : Env) (cfg : Cfg) (url : Url) (params : Option Str) (method : Str)
    (defaults headers : List (Str × Str)) (cookies : Option (List (Str × Str))) (data : Option Body)
    (jar0 : env.jar.σ) (chain : List Resp) (k : Nat) (r : Resp) (hr : chain[k]? = some r)
    (hloc : r.loc = .nonHttp ∨ r.loc = .invalid ∨ r.loc = .badOrigin ∨ r.loc = .none) :
    (request env cfg url params method defaults headers cookies data jar0 chain).sent.length ≤ k + 1 := by
  apply Nat.le_of_not_lt
  intro hlt
  obtain ⟨r', u, h1, h2, _⟩ := only_http_redirects_followed env cfg url params method defaults headers cookies data jar0 chain
    k _ (List.getElem?_eq_getElem hlt)
  rw [hr] at h1; injection h1 with h1; subst h1
  rw [h2] at hloc
  rcases hloc with h | h | h | h <;> cases h

/-- a non-HTTP `Location` makes the call fail with `NonHttpUrlRedirectClientError` after
releasing and closing that response (non-vacuity of `non_http_refused`, and the error kind) -/
example :
    let res := request env0 {} url0 none GET [] [] none none () [⟨302, .nonHttp, 0⟩, ⟨200, .none, 0⟩]
    res.sent.length = 1 ∧ res.out = .err .nonHttpRedirect ∧ res.events = [.release 0, .close 0] := by decide +kernel

/- Full statement (FALSE for the unchanged code, finding F18 - see `f18_self_in_history`):

   theorem history_in_order_and_released : out = .ok f hist →
     f + 1 = sent.length ∧ hist = List.range f ∧ ∀ i < f, Ev.release i ∈ events
-/

/-- **History is in order and every intermediate response is released** - partial: when the
call returns response `f`, exactly `f + 1` requests were made, every response `i < f` was
released, and `history = [0, …, f-1]` **provided the returned response is not itself a followed
redirect status**; when it is (a 3xx without `Location`/`URI`, the only way), the code returns
`history = [0, …, f]`, i.e. the response is the last element of its own history (F18). -/
theorem history_in_order_and_released_partial (env : Env) (cfg : Cfg) (url : Url) (params : Option Str) (method : Str)
    (defaults headers : List (Str × Str)) (cookies : Option (List (Str × Str))) (data : Option Body)
    (jar0 : env.jar.σ) (chain : List Resp) :
    let res := request env cfg url params method defaults headers cookies data jar0 chain
    ∀ f hist, res.out = .ok f hist →
      f + 1 = res.sent.length ∧ (∀ i, i < f → Ev.release i ∈ res.events) ∧
      ∃ r, chain[f]? = some r ∧
        ((isRedirect r.status && cfg.allowRedirects) = false → hist = List.range f) ∧
        ((isRedirect r.status && cfg.allowRedirects) = true → r.loc = .none ∧ hist = List.range (f + 1)) := by
  intro res f hist h
  obtain ⟨-, b2, b3, r, b4, b5⟩ :=
    run_history (cfg := cfg) chain _ (init_inv env url params method defaults headers cookies data jar0) rfl f hist h
  exact ⟨b2, fun i hi => b3 i (Nat.zero_le _) hi, r, b4, b5⟩

/-- the normal case of the theorem above is reachable: two hops, `history = [0]`, response 0
released (twice, as the code does) -/
example :
    let res := request env0 {} url0 none GET [] [] none none () [⟨302, .ok url0, 0⟩, ⟨200, .none, 0⟩]
    res.out = .ok 1 [0] ∧ res.events = [.release 0, .release 0] := by decide +kernel

/-- **Finding F18 (counterexample to the full statement).**  `GET` answered `302` without
`Location`: the response is returned *and* is the only element of its own history. -/
theorem f18_self_in_history :
    (request env0 {} url0 none GET [] [] none none () [⟨302, .none, 0⟩]).out = .ok 0 [0] := by decide +kernel

/-- **Every received response is disposed of.**  Whenever the call ends (returns or raises),
each response `i` that was received was released, or closed, or is the one returned - on every
error path too (`TooManyRedirects`, consumed body, invalid / non-HTTP target). -/
theorem responses_all_disposed (env : Env) (cfg : Cfg) (url : Url) (params : Option Str) (method : Str)
    (defaults headers : List (Str × Str)) (cookies : Option (List (Str × Str))) (data : Option Body)
    (jar0 : env.jar.σ) (chain : List Resp) :
    let res := request env cfg url params method defaults headers cookies data jar0 chain
    res.out ≠ .pending → ∀ i, i < res.sent.length →
      Ev.release i ∈ res.events ∨ Ev.close i ∈ res.events ∨ ∃ h, res.out = .ok i h := by
  intro res hne i hi
  exact run_disposed (cfg := cfg) chain _ (init_inv env url params method defaults headers cookies data jar0) hne i
    (Nat.zero_le _) hi

/-- a concrete A→B→A chain: the caller's `Authorization` goes to hop 0 only, the credentials
embedded in the redirect to B go to B only, and hop 2 (back on A) carries no `Authorization`
at all (the hypotheses of the confinement theorems are inhabited by real chains) -/
example :
    let a : Url := url0
    let b : Url := { origin := ⟨0, S "b.test", 80, 0⟩, hostHdr := S "b.test", target := S "/", cred := some (S "Basic B") }
    let res := request env0 {} a none GET [] [(AUTHORIZATION, S "Bearer A")] none none ()
      [⟨302, .ok b, 0⟩, ⟨302, .ok a, 0⟩, ⟨200, .none, 0⟩]
    res.sent.map (fun s => (getFirst AUTHORIZATION s.headers).map (·.value)) =
      [some (S "Bearer A"), some (S "Basic B"), none] := by decide +kernel

/-! ## connection faults: the peer closes a connection without answering (`Reply.drop`)

A resent request keeps the `idx` of the one it repeats: from here on `idx` numbers the hops, not the requests. -/

/-- the run of `ClientSession._request` when some requests are never answered -/
abbrev requestF (env : Env) (cfg : Cfg) (url : Url) (params : Option Str) (method : Str)
    (defaults headers : List (Str × Str)) (cookies : Option (List (Str × Str))) (data : Option Body)
    (jar0 : env.jar.σ) (chain : List Reply) : Result :=
  runF env cfg (initF env cfg url params method defaults headers cookies data jar0) chain

/-- Without faults the fault-aware loop is the plain loop (from any state), so everything above
is about `runF` on fault-free chains too. -/
theorem faultfree_runF_is_run (env : Env) (cfg : Cfg) (st : St env.jar.σ) (chain : List Resp) :
    runF env cfg st (chain.map Reply.resp) = run env cfg st chain :=
  runF_resp_eq_run chain st

/-- **Secrets stay confined under connection faults too**: `secrets_confined` for chains in
which any requests are dropped by the peer and transparently resent. -/
theorem secrets_confined_under_faults (env : Env) (cfg : Cfg) (url : Url) (params : Option Str) (method : Str)
    (defaults headers : List (Str × Str)) (cookies : Option (List (Str × Str))) (data : Option Body)
    (jar0 : env.jar.σ) (chain : List Reply) :
    let sent := (requestF env cfg url params method defaults headers cookies data jar0 chain).sent
    ∀ sk ∈ sent, ∀ hd ∈ sk.headers, isSecretName hd.name = true → ∀ p ∈ hd.provs,
      p.birth ≤ sk.idx ∧
      ∀ sj ∈ sent, p.birth ≤ sj.idx → sj.idx ≤ sk.idx → sj.url.origin = sk.url.origin := by
  intro sent sk hk hd hhd hsec p hp
  have ⟨hok, hstreak⟩ := runF_trace (cfg := cfg) chain _ (initF_inv env cfg url params method defaults headers cookies data jar0)
  exact hstreak.confined hk ((hok sk hk).wire hd hhd hsec p hp)

/-- **Termination under faults: the redirect budget plus ONE resend per call.**  Whatever the
peer drops, at most `max_redirects` requests are put on the wire, plus one if the call has a
resend allowance (`_retry_connection` and an idempotent first method).  The allowance is never
renewed by a redirect hop. -/
theorem at_most_max_redirects_plus_one_resend (env : Env) (cfg : Cfg) (url : Url) (params : Option Str) (method : Str)
    (defaults headers : List (Str × Str)) (cookies : Option (List (Str × Str))) (data : Option Body)
    (jar0 : env.jar.σ) (chain : List Reply) (hmax : cfg.maxRedirects ≠ 0) :
    (requestF env cfg url params method defaults headers cookies data jar0 chain).sent.length ≤
      cfg.maxRedirects + (if cfg.retryConnection && isIdempotent method then 1 else 0) := by
  have hinv := initF_inv env cfg url params method defaults headers cookies data jar0
  exact runF_count hmax chain _ hinv (Nat.pos_of_ne_zero hmax)

/-- **One transparent resend per call.**  Among the replies consumed by the call, the number of
dropped connections is at most the allowance (0 or 1) plus one - and that extra one is the
drop that ends the call with `ServerDisconnectedError`.  So a second disconnect is always
reported, never silently resent. -/
theorem one_resend_per_call (env : Env) (cfg : Cfg) (url : Url) (params : Option Str) (method : Str)
    (defaults headers : List (Str × Str)) (cookies : Option (List (Str × Str))) (data : Option Body)
    (jar0 : env.jar.σ) (chain : List Reply) :
    let res := requestF env cfg url params method defaults headers cookies data jar0 chain
    dropsIn chain res.sent.length ≤
      (if cfg.retryConnection && isIdempotent method then 1 else 0) + (if res.out = .err .disconnected then 1 else 0) := by
  intro res
  have hinv := initF_inv env cfg url params method defaults headers cookies data jar0
  exact runF_drops (cfg := cfg) chain _ hinv

/-- non-vacuity / the allowance at work: a dropped first attempt is resent once (3 requests for
2 hops), a second drop ends the call with the disconnect error -/
example :
    let r302 : Reply := .resp ⟨302, .ok url0, 0⟩
    let res1 := requestF env0 {} url0 none GET [] [] none none () [.drop, r302, .resp ⟨200, .none, 0⟩]
    let res2 := requestF env0 {} url0 none GET [] [] none none () [.drop, r302, .drop, .resp ⟨200, .none, 0⟩]
    (res1.sent.length = 3 ∧ res1.out = .ok 1 [0]) ∧ (res2.sent.length = 3 ∧ res2.out = .err .disconnected) := by
  decide +kernel

/-- **Deviation of the unchanged code from the literal bound (known finding C17-K2).**  The
property says "at most max_redirects requests are made"; with the single resend the wire can
carry `max_redirects + 1`: `max_redirects = 1`, the only request is dropped once, resent and
answered `200` - two requests.  (The bound `at_most_max_redirects_plus_one_resend` is tight.) -/
theorem single_resend_exceeds_max_by_one :
    let res := requestF env0 { maxRedirects := 1 } url0 none GET [] [] none none () [.drop, .resp ⟨200, .none, 0⟩]
    res.sent.length = 2 ∧ res.out = .ok 0 [] := by decide +kernel

/-- **netrc credentials are looked up for the host of the very request that carries them.**  In
every chain (with or without connection faults), a header that carries a netrc provenance is an
`Authorization` header and its value is the netrc entry of *that request's* host - never an entry
looked up for an earlier hop's host and carried along (what a per-call cache of the lookup would do). -/
theorem netrc_credential_is_for_this_host (env : Env) (cfg : Cfg) (url : Url) (params : Option Str) (method : Str)
    (defaults headers : List (Str × Str)) (cookies : Option (List (Str × Str))) (data : Option Body)
    (jar0 : env.jar.σ) (chain : List Reply) :
    ∀ sk ∈ (requestF env cfg url params method defaults headers cookies data jar0 chain).sent,
      ∀ hd ∈ sk.headers, ∀ k, Prov.netrc k ∈ hd.provs →
        ciEq hd.name AUTHORIZATION = true ∧ env.netrc sk.url.origin.host = some hd.value := by
  intro sk hk hd hhd k hp
  exact runF_netrc (cfg := cfg) chain _ (initF_netrc env cfg url params method defaults headers cookies data jar0 _) sk hk hd hhd k hp

/-- non-vacuity: with `trust_env` and a netrc entry for `a.test` only, a chain a.test → b.test sends the
entry to a.test and nothing to b.test -/
example :
    let envN : Env := { env0 with netrc := fun h => if h == S "a.test" then some (S "Basic NA") else none }
    let b : Url := { origin := ⟨0, S "b.test", 80, 0⟩, hostHdr := S "b.test", target := S "/" }
    let res := requestF envN { trustEnv := true } url0 none GET [] [] none none ()
      [.resp ⟨302, .ok b, 0⟩, .resp ⟨200, .none, 0⟩]
    res.sent.map (fun s => (getFirst AUTHORIZATION s.headers).map (·.value)) = [some (S "Basic NA"), none] := by
  decide +kernel

/-- The tables extracted from the source on every run are the documented ones: exactly 301, 302, 303,
307, 308 are followed; 303 always and 301/302 after POST are rewritten to GET; the resend allowance is
for the idempotent methods.  (If the source changes a table this stops checking, and the direct oracle
is asked for a failing input.) -/
theorem redirect_statuses_are_the_documented_five :
    Gen.C17.redirectStatuses = [301, 302, 303, 307, 308] ∧ Gen.C17.seeOtherStatuses = [303] ∧
    Gen.C17.postToGetStatuses = [301, 302] ∧
    Gen.C17.idempotentMethods = [S "DELETE", S "GET", S "HEAD", S "OPTIONS", S "PUT", S "QUERY", S "TRACE"] := by
  decide +kernel

end Aio.C17
