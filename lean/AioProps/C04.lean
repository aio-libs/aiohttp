import AioProps.C04Lemmas
/-!
# C04 — property theorems (outbound messages: no structure injection; truthful framing)

Model: `AioModel/C04.lean` (= `aiohttp/http_writer.py`).  Every statement quantifies over
all code-point strings / all byte strings / all operation sequences of the stated shape.
-/
namespace Aio.C04
open Aio

/-- The generated forbidden-character table (re-extracted from the source on every run)
covers CR, LF, NUL and every other C0 control except HTAB, and DEL. -/
theorem forbidden_covers_cr_lf :
    forbidden 13 = true ∧ forbidden 10 = true ∧ forbidden 0 = true ∧
    ∀ c, (c < 32 ∧ c ≠ 9 ∨ c = 127) → forbidden c = true :=
  ⟨forbidden_ctl 13 (by omega), forbidden_ctl 10 (by omega), forbidden_ctl 0 (by omega), forbidden_ctl⟩

/-- Serialisation succeeds exactly when every supplied string is free of forbidden
characters and the block is encodable. -/
theorem serialize_ok_iff (st : Str) (hs : List (Str × Str)) :
    (∃ bs, serialize st hs = .ok bs) ↔
      (safeHeader st = true ∧ (∀ kv ∈ hs, safeHeader kv.1 = true ∧ safeHeader kv.2 = true) ∧
        (utf8 (serializeStr st hs)).isSome = true) := by
  simp only [serialize_eq_ok, Option.isSome_iff_exists, exists_and_left]

/-- **No structure injection.** If a header block is written at all, then splitting the
bytes at CRLF yields exactly: the supplied start line, one line per supplied header (in
order, `name ": " value`), and the two empty strings that end the block — and no line
contains a bare CR or LF. No supplied string can add a line, a header or a second message. -/
theorem serialize_lines (st : Str) (hs : List (Str × Str)) (bs : Bytes)
    (h : serialize st hs = .ok bs) (hne : hs ≠ []) :
    ∃ sb lb, utf8 st = some sb ∧ hs.map (fun kv => utf8 (headerLine kv)) = lb.map some ∧
      splitCRLF bs [] = sb :: lb ++ [[], []] ∧
      (∀ l ∈ sb :: lb, (13 : UInt8) ∉ l ∧ (10 : UInt8) ∉ l) := by
  obtain ⟨hst, hhs, hu⟩ := (serialize_eq_ok st hs bs).mp h
  have hb : utf8 (((st :: hs.map headerLine).map (· ++ [13, 10])).flatten ++ [13, 10]) = some bs := by
    rw [List.map_cons, List.flatten_cons, ← joinCRLF_crlf (hs.map headerLine) (by simpa using hne)]
    simpa [serializeStr] using hu
  have hcl : ∀ l ∈ st :: hs.map headerLine, 13 ∉ l ∧ 10 ∉ l := by
    intro l hl
    rcases List.mem_cons.mp hl with rfl | hl
    · exact safe_no_cr_lf _ hst
    · obtain ⟨kv, hkv, rfl⟩ := List.mem_map.mp hl
      simp [headerLine, safe_no_cr_lf _ (hhs kv hkv).1, safe_no_cr_lf _ (hhs kv hkv).2]
  obtain ⟨_ | ⟨sb, lb⟩, hf, hsplit, hno⟩ := split_lines _ bs hcl hb
  · cases hf
  · simp only [List.map_cons, List.cons.injEq, List.map_map] at hf
    exact ⟨sb, lb, hf.1, hf.2, hsplit, hno⟩

/-- **Refused before any byte reaches the transport.** `write_headers` never writes, and when
serialisation is refused the writer state is unchanged (nothing buffered either). -/
theorem serialize_error_writes_nothing (w : W) (st : Str) (hs : List (Str × Str)) :
    (step w (.writeHeaders st hs)).1.out = w.out ∧
    (∀ e, serialize st hs = .error e →
      (step w (.writeHeaders st hs)).1 = w ∧ (step w (.writeHeaders st hs)).2 = some (.header e)) := by
  constructor
  · simp only [step]; split <;> rfl
  · intro e he; simp [step, he]

/-- **Reference decoding of the chunked wire format.** For every list of written chunks
(any sizes, empty ones included) followed by the terminator, the strict RFC 9112 chunked
decoder returns exactly the concatenation of the data and consumes exactly the body. -/
theorem decode_encodeChunks (ds : List Bytes) (rest : Bytes) :
    decodeChunked ((encodeChunks ds ++ lastChunk).length + 1) (encodeChunks ds ++ lastChunk ++ rest)
      = some (ds.flatten, rest) := by
  apply decode_encodeChunks_fuel
  simp; omega

/-- body-phase operations of an application: `write(d)` and `send_headers()` in any order -/
inductive BodyOp where
  | write (d : Bytes)
  | send

def BodyOp.toOp : BodyOp → Op
  | .write d => .write d []
  | .send => .sendHeaders

def BodyOp.data : BodyOp → Bytes
  | .write d => d
  | .send => []

theorem run_snoc (w : W) (ops : List Op) (fin : Op) :
    run w (ops ++ [fin]) = ((step (run w ops).1 fin).1, (run w ops).2 ++ [(step (run w ops).1 fin).2]) := by
  induction ops generalizing w with
  | nil => rfl
  | cons x xs ih => simp [run, ih]

/-- A body-phase program given as a list over any type `α` of calls: `toOp a` is a `write` or
`send_headers`, and `pay a` what it puts into a chunk (when compressing, the compressor's output). -/
def BodyCalls (z : Bool) {α : Type} (toOp : α → Op) (pay : α → Bytes) : Prop :=
  ∀ a, (∃ d cz, toOp a = .write d cz ∧ pay a = if z then cz else d) ∨ (toOp a = .sendHeaders ∧ pay a = [])

theorem bodyOp_calls : BodyCalls false BodyOp.toOp BodyOp.data
  | .write _ => Or.inl ⟨_, _, rfl, rfl⟩
  | .send => Or.inr ⟨rfl, rfl⟩

theorem run_chunking {z : Bool} {α : Type} {toOp : α → Op} {pay : α → Bytes} (hα : BodyCalls z toOp pay)
    (w : W) (hw : Chunking z w) (ops : List α) :
    Chunking z (run w (ops.map toOp)).1 ∧ (∀ e ∈ (run w (ops.map toOp)).2, e = none) ∧
    flushed (run w (ops.map toOp)).1 = flushed w ++ encodeChunks (ops.map pay) := by
  induction ops generalizing w with
  | nil => simp [run, encodeChunks]; exact hw
  | cons a ops ih =>
    obtain ⟨h1, h2, h3⟩ : (step w (toOp a)).2 = none ∧ Chunking z (step w (toOp a)).1 ∧
        flushed (step w (toOp a)).1 = flushed w ++ frameOf (pay a) := by
      rcases hα a with ⟨d, cz, ho, hp⟩ | ⟨ho, hp⟩ <;> rw [ho, hp]
      · exact step_write_chunking z w hw d cz
      · simpa [frameOf] using step_send_chunking z w hw
    obtain ⟨i1, i2, i3⟩ := ih _ h2
    refine ⟨i1, List.forall_mem_cons.mpr ⟨h1, i2⟩, ?_⟩
    show flushed (run (step w (toOp a)).1 (ops.map toOp)).1 = _
    rw [i3, h3]; simp [encodeChunks]

theorem chunking_wire {z : Bool} {α : Type} {toOp : α → Op} {pay : α → Bytes} (hα : BodyCalls z toOp pay)
    (w : W) (hw : Chunking z w) (ops : List α) (fin : Op) (y : Bytes)
    (hfin : ∀ w', Chunking z w' → (step w' fin).2 = none ∧ (step w' fin).1.eof = true ∧
      (step w' fin).1.out = flushed w' ++ frameOf y ++ lastChunk) :
    (run w (ops.map toOp ++ [fin])).1.out = flushed w ++ (encodeChunks (ops.map pay ++ [y]) ++ lastChunk) ∧
    (run w (ops.map toOp ++ [fin])).1.eof = true ∧ (∀ e ∈ (run w (ops.map toOp ++ [fin])).2, e = none) := by
  obtain ⟨h1, h2, h3⟩ := run_chunking hα w hw ops
  obtain ⟨e1, e2, e3⟩ := hfin _ h1
  rw [run_snoc]
  exact ⟨by simp [e3, h3, encodeChunks], e2, List.forall_mem_append.mpr ⟨h2, by simpa using e1⟩⟩

/-- how an application ends a message: `write_eof(d)` or `set_eof()` -/
def finOp : Option Bytes → Op
  | some d => .writeEof d [] []
  | none => .setEof

/-- what was written, as a list of chunks: the `write` calls, then the `write_eof(d)` data -/
def writtenChunks (ops : List BodyOp) (fin : Option Bytes) : List Bytes :=
  ops.map BodyOp.data ++ (match fin with | some d => [d] | none => [])

/-- **The exact wire form of a chunked message**: header block, one frame per non-empty write,
the last-chunk. (`chunked_roundtrip` is this followed by the reference decoder.) -/
theorem chunked_wire (w : W) (hw : ChunkedReady w) (ops : List BodyOp) (fin : Option Bytes) :
    let r := run w (ops.map BodyOp.toOp ++ [finOp fin])
    r.1.out = flushed w ++ (encodeChunks (writtenChunks ops fin) ++ lastChunk) ∧ r.1.eof = true ∧
      (∀ e ∈ r.2, e = none) := by
  cases fin with
  | some d =>
    simpa [writtenChunks, finOp] using chunking_wire bodyOp_calls w hw.chunking ops (.writeEof d [] []) d
      fun w' h' => step_writeEof_chunking false w' h' d [] [] nofun
  | none =>
    simpa [writtenChunks, finOp, encodeChunks, frameOf] using chunking_wire bodyOp_calls w hw.chunking ops .setEof []
      fun w' h' => by simpa [frameOf] using step_setEof_chunking false w' h'

/-- **Chunked output decodes to exactly the written data.** For every writer that has its
header block (buffered or already sent) and is in chunked mode, and every program of
`write`/`send_headers` calls (any chunk sizes, any order) ended by `write_eof(d)` or
`set_eof()`: no call fails, the message is marked complete, and the bytes on the wire are
the header block followed by a body which the reference chunked decoder maps back to the
concatenation of the written data with nothing left over. -/
theorem chunked_roundtrip (w : W) (hw : ChunkedReady w) (ops : List BodyOp) (fin : Option Bytes) :
    let r := run w (ops.map BodyOp.toOp ++ [finOp fin])
    ∃ body, r.1.out = flushed w ++ body ∧ r.1.eof = true ∧ (∀ e ∈ r.2, e = none) ∧
      decodeChunked (body.length + 1) body
        = some ((ops.map BodyOp.data).flatten ++ fin.getD [], []) := by
  obtain ⟨h1, h2, h3⟩ := chunked_wire w hw ops fin
  refine ⟨_, h1, h2, h3, ?_⟩
  have := decode_encodeChunks (writtenChunks ops fin) []
  cases fin <;> simpa [writtenChunks] using this

/-- **No premature terminator.** Before end-of-message, the body bytes on the wire never
contain anything but complete non-empty chunks: in particular `write(b"")` emits no body
byte (a zero-size chunk would end the message early). -/
theorem no_premature_terminator (w : W) (hw : ChunkedReady w) (ops : List BodyOp) :
    flushed (run w (ops.map BodyOp.toOp)).1 = flushed w ++ encodeChunks (ops.map BodyOp.data) ∧
    (flushed (run w ([BodyOp.write []].map BodyOp.toOp)).1 = flushed w) := by
  have body := fun ops => (run_chunking bodyOp_calls w hw.chunking ops).2.2
  exact ⟨body ops, by simpa [encodeChunks, BodyOp.data, frameOf] using body [.write []]⟩

/-- **A declared length is honoured.** For a writer with `length = n` (identity coding) and
any program of `write`/`send_headers` calls, the body bytes on the wire are exactly the
first `n` bytes of the written data — never more, whatever the chunk sizes — and the
remaining allowance is `n` minus the bytes offered (truncated at 0). In particular, when the
application writes exactly the declared number of bytes, exactly those bytes are sent. -/
theorem length_truthful (w : W) (n : Nat) (hw : LengthReady w n) (ops : List BodyOp) :
    let r := run w (ops.map BodyOp.toOp)
    (∀ e ∈ r.2, e = none) ∧
    flushed r.1 = flushed w ++ ((ops.map BodyOp.data).flatten).take n ∧
    r.1.length = some (n - ((ops.map BodyOp.data).flatten).length) := by
  induction ops generalizing w n with
  | nil => simp [run]; exact hw.len
  | cons op ops ih =>
    obtain ⟨h1, h2, h3⟩ : (step w op.toOp).2 = none ∧ LengthReady (step w op.toOp).1 (n - op.data.length) ∧
        flushed (step w op.toOp).1 = flushed w ++ op.data.take n := by
      cases op with
      | write d => exact step_write_length w n hw d []
      | send => simpa [BodyOp.data, BodyOp.toOp] using step_send_length w n hw
    obtain ⟨i1, i2, i3⟩ := ih _ _ h2
    refine ⟨List.forall_mem_cons.mpr ⟨h1, i1⟩, ?_, ?_⟩
    · show flushed (run (step w op.toOp).1 (ops.map BodyOp.toOp)).1 = _
      rw [i2, h3]; simp [List.take_append]
    · show (run (step w op.toOp).1 (ops.map BodyOp.toOp)).1.length = _
      rw [i3]; simp; omega

/-- after `write_headers` + `enable_chunking` on a fresh writer the hypotheses of
`chunked_roundtrip` hold -/
example : ChunkedReady (run {} [.writeHeaders [72] [([65], [98])], .enableChunking]).1 := by
  refine ⟨by decide, by decide, by decide, by decide, by decide, Or.inr ⟨_, rfl, by decide, by decide⟩⟩

example : LengthReady (run {} [.writeHeaders [72] [([65], [98])], .setLength (some 3)]).1 3 := by
  refine ⟨by decide, by decide, by decide, by decide, Or.inr ⟨_, rfl, by decide, by decide⟩⟩

/-- a concrete injection attempt is refused, and a benign block is accepted -/
example : (match serialize [72] [([65], [98, 13, 10, 88, 58, 49])] with | .error .forbidden => true | _ => false) = true := by decide

example : (match serialize [72] [([65], [98, 9, 0xE9])] with | .ok bs => bs.length | _ => 0) = 14 := by decide

end Aio.C04
